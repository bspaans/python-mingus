import Mingus.Gen.Keys
import Mingus.Gen.Notes
import Mingus.Gen.Intervals
import Mingus.Model.Intervals
/- Tie A for C04: key table, base scale, fifths and the diatonic step numbers. -/
namespace Mingus.Tie.C04
open Mingus
theorem tie_keys : Gen.Keys.keys = Keys.keys := by decide +kernel
theorem tie_baseScale : Gen.Keys.baseScale = Keys.baseScale := by decide +kernel
theorem tie_fifths : Gen.Notes.fifths = Notes.fifths := by decide +kernel
theorem tie_degreeFns : Gen.Intervals.degreeFns = Intervals.degreeFns := by decide +kernel
end Mingus.Tie.C04
