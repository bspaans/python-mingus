import Mingus.Gen.Track
import Mingus.Gen.Bar
import Mingus.Model.Containers
/- Tie A for C14: the statements of Track.add_notes after the range gate (default value 4, first bar, fresh bar with the
   last bar's key and meter after a full bar, place in the last bar), the instrument ranges, the guitar's six-note limit,
   Composition's selection statements. -/
namespace Mingus.Tie.C14
open Mingus Mingus.Containers
def nl : Str := [Char.ofNat 10]
theorem tie_addNotes : Gen.Track.addNotesSource.drop 1 =
    [lit "if duration == None:" ++ nl ++ lit "    duration = 4",
     lit "if len(self.bars) == 0:" ++ nl ++ lit "    self.bars.append(Bar())", lit "last_bar = self.bars[-1]",
     lit "if last_bar.is_full():" ++ nl ++ lit "    self.bars.append(Bar(last_bar.key, last_bar.meter))",
     lit "return self.bars[-1].place_notes(note, duration)"] := by decide +kernel
theorem tie_gate : (Gen.Track.addNotesSource.headD []).take 97 =
    lit "if self.instrument != None and note is not None:" ++ nl ++ lit "    if not self.instrument.can_play_notes(note):" := by
  decide +kernel
def rangeOf (i : Instrument) : List Char × Int × List Char × Int := (i.lo.name, i.lo.octave, i.hi.name, i.hi.octave)
theorem tie_ranges : Gen.Track.ranges.map (fun r => (r.2.1, r.2.2.1, r.2.2.2.1, r.2.2.2.2)) =
    [rangeOf genericInstrument, rangeOf piano, rangeOf guitar, rangeOf midiInstrument] := by decide +kernel
theorem tie_guitarLimit : Gen.Track.guitarLimit = [lit "len(notes) > 6"] ∧ guitar.maxNotes = some 6 := by decide +kernel
theorem tie_composition : Gen.Track.compositionSource.drop 1 =
    [lit "self.tracks.append(track)", lit "self.selected_tracks = [len(self.tracks) - 1]",
     lit "for n in self.selected_tracks:" ++ nl ++ lit "    self.tracks[n] + note"] := by decide +kernel
theorem tie_acceptCondition : Gen.Bar.acceptCondition =
    [lit "self.current_beat + 1.0 / duration <= self.length or self.length == 0.0"] := by decide +kernel
end Mingus.Tie.C14
