import Mingus.Gen.Value
import Mingus.Model.Value
/- Tie A for C09: base values, the float thresholds of `determine` as exact rationals with the tuple each branch
   returns, the multi-dot fingerprints, the doubles `dots` produces, the tuplet helper ratios. -/
namespace Mingus.Tie.C09
open Mingus Mingus.Value
theorem tie_baseValues : Gen.Value.baseValues = baseValues := by decide +kernel
theorem tie_chain : Gen.Value.chain =
    [(thrBase, lit "v", 0, 1, 1), (thrSeptuplet, lit "base_values[i + 1]", 0, 7, 4),
     (thrTriplet, lit "base_values[i + 1]", 0, 3, 2), (thrDotted, lit "v", 1, 1, 1),
     (thrQuintuplet, lit "base_values[i + 1]", 0, 5, 4)] := by decide +kernel
theorem tie_fingerprints : Gen.Value.fingerprints = dotFingerprints := by decide +kernel
theorem tie_dotConst : Gen.Value.dotConst = dotConst := by decide +kernel
theorem tie_tupletHelpers : Gen.Value.tupletHelpers = [(lit "triplet", 3, 2), (lit "quintuplet", 5, 4)] := by decide +kernel
end Mingus.Tie.C09
