import Mingus.Gen.Chords
import Mingus.Gen.Intervals
import Mingus.Model.Chords
/- Tie A for C06: the builders of chords.py, normalised by the translator's symbolic evaluation to lists of
   note expressions, and the two shorthand dictionaries, equal the model's (as finite maps). -/
namespace Mingus.Tie.C06
open Mingus Mingus.Chords

def sameMap {β} [DecidableEq β] (a b : List (Str × β)) : Bool :=
  a.length == b.length && (a.map (·.1)).Nodup && a.all (fun r => b.lookup r.1 == some r.2)

theorem tie_chordShorthand : sameMap Gen.Chords.chordShorthand chordShorthand = true := by decide +kernel
theorem tie_chordMeaning : sameMap Gen.Chords.chordMeaning chordMeaning = true := by decide +kernel
theorem tie_namedBuilders : sameMap Gen.Chords.namedBuilders namedBuilders = true := by decide +kernel
theorem tie_ctorTable : Gen.Intervals.ctorTable = Intervals.ctorTable := by decide +kernel
theorem tie_aliasTable : Gen.Intervals.aliasTable = Intervals.aliasTable := by decide +kernel
end Mingus.Tie.C06
