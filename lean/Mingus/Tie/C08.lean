import Mingus.Gen.Chords
import Mingus.Gen.Progressions
import Mingus.Gen.Keys
import Mingus.Model.Progressions
import Mingus.Tie.C06
/- Tie A for C08: function/alias table of chords.py, the tables of progressions.py. -/
namespace Mingus.Tie.C08
open Mingus Mingus.Chords Mingus.Progressions
theorem tie_functionTable : Tie.C06.sameMap Gen.Chords.functionTable functionTable = true := by decide +kernel
theorem tie_numerals : Gen.Progressions.numerals = numerals := by decide +kernel
theorem tie_numeralIntervals : Gen.Progressions.numeralIntervals = numeralIntervals := by decide +kernel
theorem tie_funcDict : Gen.Progressions.funcDict = funcDict := by decide +kernel
theorem tie_expectedChord : Gen.Progressions.expectedChord = expectedChord := by decide +kernel
theorem tie_simpleSubs : Gen.Progressions.simpleSubs = simpleSubs := by decide +kernel
theorem tie_substTable : Gen.Progressions.substTable = substTable := by decide +kernel
theorem tie_intervalFunc : Gen.Progressions.intervalFunc = intervalFunc := by decide +kernel
theorem tie_chordShorthand : Tie.C06.sameMap Gen.Chords.chordShorthand chordShorthand = true := Tie.C06.tie_chordShorthand
theorem tie_keys : Gen.Keys.keys = Keys.keys := by decide +kernel
end Mingus.Tie.C08
