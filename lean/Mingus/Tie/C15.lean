import Mingus.Gen.Classes
import Mingus.Model.Alias
/- Tie A for C15 (static): for every class of the container modules and of midi_file_out, midi_track and sequencer (the
   fourteen of `classes_covered`), every class-level list/dict that some method mutates in place is rebound by `__init__`
   (so instances own their object - the hypothesis of the instance theorems); the memoised theory functions return copies
   (the `fresh` flag of the memo machine); the fft shortcut tests its bound. -/
namespace Mingus.Tie.C15
open Mingus Mingus.Alias
theorem all_classes_safe : ∀ c ∈ Gen.Classes.classes, c.safe = true := by decide +kernel
theorem classes_covered : Gen.Classes.classes.map (·.name) =
    [lit "Note", lit "NoteContainer", lit "Bar", lit "Track", lit "Composition", lit "Suite", lit "Instrument", lit "Piano",
     lit "Guitar", lit "MidiInstrument", lit "MidiPercussionInstrument", lit "MidiFile", lit "MidiTrack", lit "Sequencer"] := by
  decide +kernel
theorem memo_returns_are_copies : Gen.Classes.memoReturns =
    [(lit "get_notes", [lit "list(result)", lit "list(_key_cache[key])"]),
     (lit "triads", [lit "[list(x) for x in _triads_cache[key]]"]),
     (lit "sevenths", [lit "[list(x) for x in _sevenths_cache[key]]"])] := by decide +kernel
theorem fft_shortcut_guarded : Gen.Classes.fftShortcutTests =
    [lit "f <= _log_cache[lastn]", lit "lastn + 1 < len(_log_cache) and f <= _log_cache[lastn + 1]"] := by decide +kernel
/-- no function or method of the library has a list / dict / set as a default argument value -/
theorem no_mutable_defaults : Gen.Classes.mutableDefaults = [] := by decide +kernel
end Mingus.Tie.C15
