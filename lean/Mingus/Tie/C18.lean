import Mingus.Gen.Sequencer
import Mingus.Model.Sequencer
/- Tie A for C18: every statement of seventeen methods of Sequencer (registry, guards, play/stop, the sequential walkers,
   the parallel scheduler play_Bars, play_Tracks, play_Composition; not `init`, the five empty hooks, `stop_everything`,
   `pan`), the message numbers, SequencerObserver.notify, and the General MIDI name table - regenerated from /repo on
   every run and compared with what the model (Model/Sequencer.lean, Model/GM.lean) was written against. -/
namespace Mingus.Tie.C18
open Mingus

def msgConstsExpected : List (List Char × List Char) :=
  [(lit "output", lit "None"),
   (lit "MSG_PLAY_INT", lit "0"),
   (lit "MSG_STOP_INT", lit "1"),
   (lit "MSG_CC", lit "2"),
   (lit "MSG_INSTR", lit "3"),
   (lit "MSG_SLEEP", lit "4"),
   (lit "MSG_PLAY_NOTE", lit "5"),
   (lit "MSG_STOP_NOTE", lit "6"),
   (lit "MSG_PLAY_NC", lit "7"),
   (lit "MSG_STOP_NC", lit "8"),
   (lit "MSG_PLAY_BAR", lit "9"),
   (lit "MSG_PLAY_BARS", lit "10"),
   (lit "MSG_PLAY_TRACK", lit "11"),
   (lit "MSG_PLAY_TRACKS", lit "12"),
   (lit "MSG_PLAY_COMPOSITION", lit "13")]

theorem tie_msgConsts : Gen.Sequencer.msgConsts = msgConstsExpected := rfl

def sourcesExpected : List (List Char × List (List Char)) :=
  [(lit "__init__", [lit "self.listeners = []", lit "self.init()"]),
   (lit "attach", [lit "if listener not in self.listeners:\n    self.listeners.append(listener)"]),
   (lit "detach", [lit "if listener in self.listeners:\n    self.listeners.remove(listener)"]),
   (lit "notify_listeners", [lit "for c in self.listeners:\n    c.notify(msg_type, params)"]),
   (lit "set_instrument", [lit "self.instr_event(channel, instr, bank)", lit "self.notify_listeners(self.MSG_INSTR, {'channel': int(channel), 'instr': int(instr), 'bank': int(bank)})"]),
   (lit "control_change", [lit "if control < 0 or control > 128:\n    return False", lit "if value < 0 or value > 128:\n    return False", lit "self.cc_event(channel, control, value)", lit "self.notify_listeners(self.MSG_CC, {'channel': int(channel), 'control': int(control), 'value': int(value)})", lit "return True"]),
   (lit "play_Note", [lit "if hasattr(note, 'velocity'):\n    velocity = note.velocity", lit "if hasattr(note, 'channel'):\n    channel = note.channel", lit "self.play_event(int(note) + 12, int(channel), int(velocity))", lit "self.notify_listeners(self.MSG_PLAY_INT, {'channel': int(channel), 'note': int(note) + 12, 'velocity': int(velocity)})", lit "self.notify_listeners(self.MSG_PLAY_NOTE, {'channel': int(channel), 'note': note, 'velocity': int(velocity)})", lit "return True"]),
   (lit "stop_Note", [lit "if hasattr(note, 'channel'):\n    channel = note.channel", lit "self.stop_event(int(note) + 12, int(channel))", lit "self.notify_listeners(self.MSG_STOP_INT, {'channel': int(channel), 'note': int(note) + 12})", lit "self.notify_listeners(self.MSG_STOP_NOTE, {'channel': int(channel), 'note': note})", lit "return True"]),
   (lit "play_NoteContainer", [lit "self.notify_listeners(self.MSG_PLAY_NC, {'notes': nc, 'channel': channel, 'velocity': velocity})", lit "if nc is None:\n    return True", lit "for note in nc:\n    if not self.play_Note(note, channel, velocity):\n        return False", lit "return True"]),
   (lit "stop_NoteContainer", [lit "self.notify_listeners(self.MSG_STOP_NC, {'notes': nc, 'channel': channel})", lit "if nc is None:\n    return True", lit "for note in nc:\n    if not self.stop_Note(note, channel):\n        return False", lit "return True"]),
   (lit "play_Bar", [lit "self.notify_listeners(self.MSG_PLAY_BAR, {'bar': bar, 'channel': channel, 'bpm': bpm})", lit "qn_length = 60.0 / bpm", lit "for nc in bar:\n    if not self.play_NoteContainer(nc[2], channel, 100):\n        return {}\n    if hasattr(nc[2], 'bpm'):\n        bpm = nc[2].bpm\n        qn_length = 60.0 / bpm\n    ms = qn_length * (4.0 / nc[1])\n    self.sleep(ms)\n    self.notify_listeners(self.MSG_SLEEP, {'s': ms})\n    self.stop_NoteContainer(nc[2], channel)", lit "return {'bpm': bpm}"]),
   (lit "play_Bars", [lit "self.notify_listeners(self.MSG_PLAY_BARS, {'bars': bars, 'channels': channels, 'bpm': bpm})", lit "qn_length = 60.0 / bpm", lit "tick = 0.0", lit "cur = [0] * len(bars)", lit "playing = []", lit "while tick < bars[0].length:\n    playing_new = []\n    for n, x in enumerate(cur):\n        start_tick, note_length, nc = bars[n][x]\n        if start_tick <= tick:\n            self.play_NoteContainer(nc, channels[n])\n            playing_new.append([note_length, n])\n            playing.append([note_length, nc, channels[n], n])\n            if hasattr(nc, 'bpm'):\n                bpm = nc.bpm\n                qn_length = 60.0 / bpm\n    if len(playing_new) != 0:\n        playing_new.sort()\n        shortest = playing_new[-1][0]\n        ms = qn_length * (4.0 / shortest)\n        self.sleep(ms)\n        self.notify_listeners(self.MSG_SLEEP, {'s': ms})\n    elif len(playing) != 0:\n        playing.sort()\n        shortest = playing[-1][0]\n        ms = qn_length * (4.0 / shortest)\n        self.sleep(ms)\n        self.notify_listeners(self.MSG_SLEEP, {'s': ms})\n    else:\n        return {}\n    tick += 1.0 / shortest\n    new_playing = []\n    for length, nc, chan, n in playing:\n        duration = 1.0 / length - 1.0 / shortest\n        if duration >= 1e-05:\n            new_playing.append([1.0 / duration, nc, chan, n])\n        else:\n            self.stop_NoteContainer(nc, chan)\n            if cur[n] < len(bars[n]) - 1:\n                cur[n] += 1\n    playing = new_playing", lit "for p in playing:\n    self.stop_NoteContainer(p[1], p[2])\n    playing.remove(p)", lit "return {'bpm': bpm}"]),
   (lit "play_Track", [lit "self.notify_listeners(self.MSG_PLAY_TRACK, {'track': track, 'channel': channel, 'bpm': bpm})", lit "for bar in track:\n    res = self.play_Bar(bar, channel, bpm)\n    if res != {}:\n        bpm = res['bpm']\n    else:\n        return {}", lit "return {'bpm': bpm}"]),
   (lit "play_Tracks", [lit "self.notify_listeners(self.MSG_PLAY_TRACKS, {'tracks': tracks, 'channels': channels, 'bpm': bpm})", lit "for x in range(len(tracks)):\n    instr = tracks[x].instrument\n    if isinstance(instr, MidiInstrument):\n        try:\n            i = instr.names.index(instr.name)\n        except:\n            i = instr.instrument_nr\n        self.set_instrument(channels[x], i)\n    else:\n        self.set_instrument(channels[x], 1)", lit "current_bar = 0", lit "max_bar = len(tracks[0])", lit "while current_bar < max_bar:\n    playbars = []\n    for tr in tracks:\n        playbars.append(tr[current_bar])\n    res = self.play_Bars(playbars, channels, bpm)\n    if res != {}:\n        bpm = res['bpm']\n    else:\n        return {}\n    current_bar += 1", lit "return {'bpm': bpm}"]),
   (lit "play_Composition", [lit "self.notify_listeners(self.MSG_PLAY_COMPOSITION, {'composition': composition, 'channels': channels, 'bpm': bpm})", lit "if channels == None:\n    channels = [x + 1 for x in range(len(composition.tracks))]", lit "return self.play_Tracks(composition.tracks, channels, bpm)"]),
   (lit "modulation", [lit "return self.control_change(channel, 1, value)"]),
   (lit "main_volume", [lit "return self.control_change(channel, 7, value)"])]

theorem tie_sources : Gen.Sequencer.sources = sourcesExpected := rfl

def observerNotifyExpected : List (List Char) :=
  [lit "if msg_type == Sequencer.MSG_PLAY_INT:\n    self.play_int_note_event(params['note'], params['channel'], params['velocity'])\nelif msg_type == Sequencer.MSG_STOP_INT:\n    self.stop_int_note_event(params['note'], params['channel'])\nelif msg_type == Sequencer.MSG_CC:\n    self.cc_event(params['channel'], params['control'], params['value'])\nelif msg_type == Sequencer.MSG_INSTR:\n    self.instr_event(params['channel'], params['instr'], params['bank'])\nelif msg_type == Sequencer.MSG_SLEEP:\n    self.sleep(params['s'])\nelif msg_type == Sequencer.MSG_PLAY_NOTE:\n    self.play_Note(params['note'], params['channel'], params['velocity'])\nelif msg_type == Sequencer.MSG_STOP_NOTE:\n    self.stop_Note(params['note'], params['channel'])\nelif msg_type == Sequencer.MSG_PLAY_NC:\n    self.play_NoteContainer(params['notes'], params['channel'])\nelif msg_type == Sequencer.MSG_STOP_NC:\n    self.stop_NoteContainer(params['notes'], params['channel'])\nelif msg_type == Sequencer.MSG_PLAY_BAR:\n    self.play_Bar(params['bar'], params['channel'], params['bpm'])\nelif msg_type == Sequencer.MSG_PLAY_BARS:\n    self.play_Bars(params['bars'], params['channels'], params['bpm'])\nelif msg_type == Sequencer.MSG_PLAY_TRACK:\n    self.play_Track(params['track'], params['channel'], params['bpm'])\nelif msg_type == Sequencer.MSG_PLAY_TRACKS:\n    self.play_Tracks(params['tracks'], params['channels'], params['bpm'])\nelif msg_type == Sequencer.MSG_PLAY_COMPOSITION:\n    self.play_Composition(params['composition'], params['channels'], params['bpm'])"]

theorem tie_observerNotify : Gen.Sequencer.observerNotify = observerNotifyExpected := rfl

def midiInstrumentDefaultsExpected : List (List Char × List Char) :=
  [(lit "instrument_nr", lit "1"),
   (lit "name", lit "''")]

theorem tie_midiInstrumentDefaults : Gen.Sequencer.midiInstrumentDefaults = midiInstrumentDefaultsExpected := rfl

/-- the General MIDI names the model resolves instrument names with are the source's -/
theorem tie_gm_names : Gen.Sequencer.gmNames = GM.names := rfl

end Mingus.Tie.C18
