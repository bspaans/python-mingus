import Mingus.Gen.Bar
import Mingus.Model.Containers
/- Tie A for C13: the float expressions of Bar's accounting, as mirrored by the IEEE-exact model
   (`place`: current + 1/v <= length or length = 0; `remove_last`: current -= 1/v; `is_full` tolerance; `space_left`). -/
namespace Mingus.Tie.C13
open Mingus
theorem tie_acceptCondition : Gen.Bar.acceptCondition =
    [lit "self.current_beat + 1.0 / duration <= self.length or self.length == 0.0"] := by decide +kernel
theorem tie_acceptBody : Gen.Bar.acceptBody =
    [lit "self.bar.append([self.current_beat, duration, notes])", lit "self.current_beat += 1.0 / duration", lit "return True"] := by
  decide +kernel
theorem tie_tolerance : Gen.Bar.isFullTolerance = F64.milli := by decide +kernel
theorem tie_removeLast : Gen.Bar.removeLastSource =
    [lit "self.current_beat -= 1.0 / self.bar[-1][1]", lit "self.bar = self.bar[:-1]", lit "return self.current_beat"] := by decide +kernel
theorem tie_spaceLeft : Gen.Bar.spaceLeftSource = [lit "return self.length - self.current_beat"] := by decide +kernel
end Mingus.Tie.C13
