import Mingus.Gen.Tunings
import Mingus.Model.TuningTable
import Mingus.Model.Tablature
/- Tie A for C20: the registered tunings (every add_tuning call, in order) are the model's table; every statement of
   StringTuning, fingers_needed, the registry functions (but `get_instruments`) and the tablature functions (but
   `from_Suite`) is what the models were written against; the default tuning of the tablature module is the standard
   guitar the model uses. -/
namespace Mingus.Tie.C20
open Mingus

theorem tie_registered : Gen.Tunings.registered = Tun.registered := rfl

def classSourcesExpected : List (List Char × List (List Char)) :=
  [(lit "__init__", [lit "self.instrument = instrument", lit "self.tuning = []", lit "for x in tuning:\n    if isinstance(x, list):\n        self.tuning.append([Note(n) for n in x])\n    else:\n        self.tuning.append(Note(x))", lit "self.description = description"]),
   (lit "count_strings", [lit "return len(self.tuning)"]),
   (lit "count_courses", [lit "c = 0", lit "for x in self.tuning:\n    if isinstance(x, list):\n        c += len(x)\n    else:\n        c += 1", lit "return float(c) / len(self.tuning)"]),
   (lit "find_frets", [lit "result = []", lit "if isinstance(note, six.string_types):\n    note = Note(note)", lit "for x in self.tuning:\n    if isinstance(x, list):\n        base = x[0]\n    else:\n        base = x\n    diff = base.measure(note)\n    if 0 <= diff <= maxfret:\n        result.append(diff)\n    else:\n        result.append(None)", lit "return result"]),
   (lit "find_fingering", [lit "if not_strings is None:\n    not_strings = []", lit "if notes is None:\n    return []", lit "if len(notes) == 0:\n    return []", lit "first = notes[0]", lit "notes = notes[1:]", lit "frets = self.find_frets(first)", lit "result = []", lit "for string, fret in enumerate(frets):\n    if fret is not None and string not in not_strings:\n        if len(notes) > 0:\n            r = self.find_fingering(notes, max_distance, not_strings + [string])\n            if r != []:\n                for f in r:\n                    result.append([(string, fret)] + f)\n        else:\n            result.append([(string, fret)])", lit "res = []", lit "for r in result:\n    min, max = (1000, -1)\n    frets = 0\n    for string, fret in r:\n        if fret > max:\n            max = fret\n        if fret < min and fret != 0:\n            min = fret\n        frets += fret\n    if 0 <= max - min < max_distance or min == 1000 or max == -1:\n        res.append((frets, r))", lit "return [r for _, r in sorted(res)]"]),
   (lit "find_chord_fingering", [lit "def follow(string, next, name, prev=-1):\n    \"\"\"Follow the fret 'next' on 'string'; build result on the way.\"\"\"\n    if string >= len(self.tuning) - 1:\n        return [[(next, name)]]\n    result = []\n    cur = res[string][next]\n    if cur != []:\n        for y in cur[1]:\n            for sub in follow(string + 1, y[0], y[1]):\n                if prev < 0:\n                    result.append([(next, name)] + sub)\n                elif sub[0][0] == 0 or abs(sub[0][0] - prev) < max_distance:\n                    result.append([(next, name)] + sub)\n    for s in follow(string + 1, maxfret + 1, None, next):\n        result.append([(next, name)] + s)\n    return [[(next, name)]] if result == [] else result", lit "def make_lookup_table():\n    \"\"\"Prepare the lookup table.\n\n            table[string][fret] = (name, dest_frets)\n            \"\"\"\n    res = [[[] for x in range(maxfret + 2)] for x in range(len(self.tuning) - 1)]\n    for x in range(0, len(self.tuning) - 1):\n        addedNone = -1\n        next = fretdict[x + 1]\n        for fret, name in fretdict[x]:\n            for f2, n2 in next:\n                if n2 != name and (f2 == 0 or abs(fret - f2) < max_distance):\n                    if res[x][fret] != []:\n                        res[x][fret][1].append((f2, n2))\n                    else:\n                        res[x][fret] = (name, [(f2, n2)])\n                if addedNone < x:\n                    if res[x][maxfret + 1] != []:\n                        res[x][maxfret + 1][1].append((f2, n2))\n                    else:\n                        res[x][maxfret + 1] = (None, [(f2, n2)])\n            addedNone = x\n    return res", lit "n = notes", lit "if notes != [] and isinstance(notes, list) and isinstance(notes[0], six.string_types):\n    n = NoteContainer(notes)", lit "notenames = [x.name for x in n]", lit "if len(notenames) == 0 or len(notenames) > len(self.tuning):\n    return []", lit "fretdict = []", lit "for x in range(0, len(self.tuning)):\n    fretdict.append(self.find_note_names(notes, x, maxfret))", lit "res = make_lookup_table()", lit "result = []", lit "for i, y in enumerate(res[0]):\n    if y != []:\n        yname, next = (y[0], y[1])\n        for fret, name in next:\n            for s in follow(1, fret, name):\n                subresult = [(i, yname)] + s\n                mi, ma, names = (1000, -1000, [])\n                for f, n in subresult:\n                    if n is not None:\n                        if f != 0 and f <= mi:\n                            mi = f\n                        if f != 0 and f >= ma:\n                            ma = f\n                        names.append(n)\n                if abs(ma - mi) < max_distance:\n                    covered = True\n                    for n in notenames:\n                        if n not in names:\n                            covered = False\n                    if covered and names != []:\n                        result.append([y[0] if y[1] is not None else y[1] for y in subresult])", lit "s = sorted(result, key=lambda x: sum([t if t is not None else 1000 for i, t in enumerate(x)]))", lit "s = [a for a in s if fingers_needed(a) <= max_fingers]", lit "if not return_best_as_NoteContainer:\n    return s\nelse:\n    rnotes = self.frets_to_NoteContainer(s[0])\n    for i, x in enumerate(rnotes):\n        if x.string < len(self.tuning) - 1:\n            if res[x.string][x.fret] != []:\n                rnotes[i].name = res[x.string][x.fret][0]\n    return rnotes"]),
   (lit "frets_to_NoteContainer", [lit "res = []", lit "for string, fret in enumerate(fingering):\n    if fret is not None:\n        res.append(self.get_Note(string, fret))", lit "return NoteContainer(res)"]),
   (lit "find_note_names", [lit "n = notelist", lit "if notelist != [] and isinstance(notelist[0], six.string_types):\n    n = NoteContainer(notelist)", lit "result = []", lit "names = [x.name for x in n]", lit "int_notes = [notes.note_to_int(x) for x in names]", lit "s = int(self.tuning[string]) % 12", lit "for x in range(0, maxfret + 1):\n    if (s + x) % 12 in int_notes:\n        result.append((x, names[int_notes.index((s + x) % 12)]))", lit "return result"]),
   (lit "get_Note", [lit "if 0 <= string < self.count_strings():\n    if 0 <= fret <= maxfret:\n        s = self.tuning[string]\n        if isinstance(s, list):\n            s = s[0]\n        n = Note(int(s) + fret)\n        n.string = string\n        n.fret = fret\n        return n\n    else:\n        raise RangeError(\"Fret '%d' on string '%d' is out of range\" % (string, fret))\nelse:\n    raise RangeError(\"String '%d' out of range\" % string)"])]

theorem tie_classSources : Gen.Tunings.classSources = classSourcesExpected := rfl

def funcSourcesExpected : List (List Char × List (List Char)) :=
  [(lit "fingers_needed(fingering)", [lit "split = False", lit "indexfinger = False", lit "minimum = min((finger for finger in fingering if finger))", lit "result = 0", lit "for finger in reversed(fingering):\n    if finger == 0:\n        split = True\n    elif not split and finger == minimum:\n        if not indexfinger:\n            result += 1\n            indexfinger = True\n    else:\n        result += 1", lit "return result"]),
   (lit "add_tuning(instrument, description, tuning)", [lit "t = StringTuning(instrument, description, tuning)", lit "if str.upper(instrument) in _known:\n    _known[str.upper(instrument)][1][str.upper(description)] = t\nelse:\n    _known[str.upper(instrument)] = (instrument, {str.upper(description): t})"]),
   (lit "get_tuning(instrument, description, nr_of_strings=None, nr_of_courses=None)", [lit "searchi = str.upper(instrument)", lit "searchd = str.upper(description)", lit "keys = list(_known.keys())", lit "for x in keys:\n    if searchi not in keys and x.find(searchi) == 0 or (searchi in keys and x == searchi):\n        for desc, tun in six.iteritems(_known[x][1]):\n            if desc.find(searchd) == 0:\n                if nr_of_strings is None and nr_of_courses is None:\n                    return tun\n                elif nr_of_strings is not None and nr_of_courses is None:\n                    if tun.count_strings() == nr_of_strings:\n                        return tun\n                elif nr_of_strings is None and nr_of_courses is not None:\n                    if tun.count_courses() == nr_of_courses:\n                        return tun\n                elif tun.count_courses() == nr_of_courses and tun.count_strings() == nr_of_strings:\n                    return tun"]),
   (lit "get_tunings(instrument=None, nr_of_strings=None, nr_of_courses=None)", [lit "search = ''", lit "if instrument is not None:\n    search = str.upper(instrument)", lit "result = []", lit "keys = list(_known.keys())", lit "inkeys = search in keys", lit "for x in keys:\n    if instrument is None or (not inkeys and x.find(search) == 0) or (inkeys and search == x):\n        if nr_of_strings is None and nr_of_courses is None:\n            result += list(_known[x][1].values())\n        elif nr_of_strings is not None and nr_of_courses is None:\n            result += [y for y in six.itervalues(_known[x][1]) if y.count_strings() == nr_of_strings]\n        elif nr_of_strings is None and nr_of_courses is not None:\n            result += [y for y in six.itervalues(_known[x][1]) if y.count_courses() == nr_of_courses]\n        else:\n            result += [y for y in six.itervalues(_known[x][1]) if y.count_strings() == nr_of_strings and y.count_courses() == nr_of_courses]", lit "return result"])]

theorem tie_funcSources : Gen.Tunings.funcSources = funcSourcesExpected := rfl

def tablatureSourcesExpected : List (List Char × List (List Char)) :=
  [(lit "begin_track(tuning, padding=2)", [lit "names = [x.to_shorthand() for x in tuning.tuning]", lit "basesize = len(max(names)) + 3", lit "res = []", lit "for x in names:\n    r = ' %s' % x\n    spaces = basesize - len(r)\n    r += ' ' * spaces + '||' + '-' * padding\n    res.append(r)", lit "return res"]),
   (lit "add_headers(width=80, title='Untitled', subtitle='', author='', email='', description='', tunings=None)", [lit "if tunings is None:\n    tunings = []", lit "result = ['']", lit "title = str.upper(title)", lit "result += [str.center('  '.join(title), width)]", lit "if subtitle != '':\n    result += ['', str.center(str.title(subtitle), width)]", lit "if author != '' or email != '':\n    result += ['', '']\n    if email != '':\n        result += [str.center('Written by: %s <%s>' % (author, email), width)]\n    else:\n        result += [str.center('Written by: %s' % author, width)]", lit "if description != '':\n    result += ['', '']\n    words = description.split()\n    lines = []\n    line = []\n    last = 0\n    for word in words:\n        if len(word) + last < width - 10:\n            line.append(word)\n            last += len(word) + 1\n        else:\n            lines.append(line)\n            line = [word]\n            last = len(word) + 1\n    lines.append(line)\n    for line in lines:\n        result += [str.center(' '.join(line), width)]", lit "if tunings != []:\n    result += ['', '', str.center('Instruments', width)]\n    for i, tuning in enumerate(tunings):\n        result += ['', str.center('%d. %s' % (i + 1, tuning.instrument), width), str.center(tuning.description, width)]", lit "result += ['', '']", lit "return result"]),
   (lit "from_Note(note, width=80, tuning=None)", [lit "if tuning is None:\n    tuning = default_tuning", lit "result = begin_track(tuning)", lit "min = 1000", lit "s, f = (-1, -1)", lit "if hasattr(note, 'string') and hasattr(note, 'fret'):\n    n = tuning.get_Note(note.string, note.fret)\n    if n is not None and int(n) == int(note):\n        s, f = (note.string, note.fret)\n        min = 0", lit "if min == 1000:\n    for string, fret in enumerate(tuning.find_frets(note)):\n        if fret is not None:\n            if fret < min:\n                min = fret\n                s, f = (string, fret)", lit "l = len(result[0])", lit "w = max(4, width - l - 1)", lit "if min != 1000:\n    fret = str(f)\n    for i in range(len(result)):\n        d = len(fret)\n        if i != s:\n            result[i] += '-' * w + '|'\n        else:\n            d = w - len(fret)\n            result[i] += '-' * (d // 2) + fret\n            d = w - d // 2 - len(fret)\n            result[i] += '-' * d + '|'\nelse:\n    raise RangeError(\"No fret found that could play note '%s'. Note out of range.\" % note)", lit "result.reverse()", lit "return os.linesep.join(result)"]),
   (lit "from_NoteContainer(notes, width=80, tuning=None)", [lit "if tuning is None:\n    tuning = default_tuning", lit "result = begin_track(tuning)", lit "l = len(result[0])", lit "w = max(4, width - l - 1)", lit "fingerings = tuning.find_fingering(notes)", lit "if fingerings != []:\n    f = []\n    attr = []\n    for note in notes:\n        if hasattr(note, 'string') and hasattr(note, 'fret'):\n            n = tuning.get_Note(note.string, note.fret)\n            if n is not None and int(n) == int(note):\n                f += (note.string, note.fret)\n                attr.append(int(note))\n    fres = []\n    if f != []:\n        for x in fingerings:\n            found = True\n            for pos in f:\n                if pos not in x:\n                    found = False\n            if found:\n                fres.append(x)\n    if fres != []:\n        f = fres[0]\n    else:\n        f = fingerings[0]\n    res = {}\n    for string, fret in f:\n        res[string] = str(fret)\n    maxfret = max(res.values())\n    for i in range(len(result)):\n        if i not in res:\n            result[i] += '-' * w + '|'\n        else:\n            d = w - len(res[i])\n            result[i] += '-' * (d // 2) + res[i]\n            d = w - d // 2 - len(res[i])\n            result[i] += '-' * d + '|'\nelse:\n    raise FingerError('No playable fingering found for: %s' % notes)", lit "result.reverse()", lit "return os.linesep.join(result)"]),
   (lit "from_Bar(bar, width=40, tuning=None, collapse=True)", [lit "if tuning is None:\n    tuning = default_tuning", lit "qsize = _get_qsize(tuning, width)", lit "result = begin_track(tuning, max(2, qsize // 2))", lit "for entry in bar.bar:\n    beat, duration, notes = entry\n    fingering = tuning.find_fingering(notes)\n    if fingering != [] or notes is None:\n        f = []\n        attr = []\n        if notes is not None:\n            for note in notes:\n                if hasattr(note, 'string') and hasattr(note, 'fret'):\n                    n = tuning.get_Note(note.string, note.fret)\n                    if n is not None and int(n) == int(note):\n                        f.append((note.string, note.fret))\n                        attr.append(int(note))\n        fres = []\n        if f != []:\n            for x in fingering:\n                found = True\n                for pos in f:\n                    if pos not in x:\n                        found = False\n                if found:\n                    fres.append(x)\n        maxlen = 0\n        if fres != []:\n            f = fres[0]\n        elif notes is None:\n            f = []\n            maxlen = 1\n        else:\n            f = fingering[0]\n        d = {}\n        for string, fret in f:\n            d[string] = str(fret)\n            if len(str(fret)) > maxlen:\n                maxlen = len(str(fret))\n        for i in range(len(result)):\n            dur = int(1.0 / duration * qsize * 4) - maxlen\n            if i not in d:\n                result[i] += '-' * maxlen + '-' * dur\n            else:\n                result[i] += ('%' + str(maxlen) + 's') % d[i] + '-' * dur\n    else:\n        raise FingerError('No playable fingering found for: %s' % notes)", lit "l = len(result[0]) + 1", lit "for i in range(len(result)):\n    result[i] += (width - l) * '-' + '|'", lit "result.reverse()", lit "pad = ' ' * int(1.0 / bar.meter[1] * qsize * 4 - 1)", lit "r = ' ' * (result[0].find('||') + 2 + max(2, qsize // 2)) + ('*' + pad) * bar.meter[0]", lit "r += ' ' * (len(result[0]) - len(r))", lit "if not collapse:\n    return [r] + result\nelse:\n    return os.linesep.join([r] + result)"]),
   (lit "from_Track(track, maxwidth=80, tuning=None)", [lit "result = []", lit "width = _get_width(maxwidth)", lit "if not tuning:\n    tuning = track.get_tuning()", lit "lastlen = 0", lit "for bar in track:\n    r = from_Bar(bar, width, tuning, collapse=False)\n    barstart = r[1].find('||') + 2\n    if len(r[0]) + lastlen - barstart < maxwidth and result != []:\n        for i in range(1, len(r) + 1):\n            item = r[len(r) - i]\n            result[-i] += item[barstart:]\n    else:\n        result += ['', ''] + r\n    lastlen = len(result[-1])", lit "return os.linesep.join(result)"]),
   (lit "from_Composition(composition, width=80)", [lit "instr_tunings = []", lit "for track in composition:\n    tun = track.get_tuning()\n    if tun:\n        instr_tunings.append(tun)\n    else:\n        instr_tunings.append(default_tuning)", lit "result = add_headers(width, composition.title, composition.subtitle, composition.author, composition.email, composition.description, instr_tunings)", lit "w = _get_width(width)", lit "barindex = 0", lit "bars = width // w", lit "lastlen = 0", lit "maxlen = max([len(x) for x in composition.tracks])", lit "while barindex < maxlen:\n    notfirst = False\n    for tracks in composition:\n        tuning = tracks.get_tuning()\n        ascii = []\n        for x in range(bars):\n            if barindex + x < len(tracks):\n                bar = tracks[barindex + x]\n                r = from_Bar(bar, w, tuning, collapse=False)\n                barstart = r[1].find('||') + 2\n                if notfirst:\n                    r[0] = r[0][:barstart - 2] + '||' + r[0][barstart:]\n                if ascii != []:\n                    for i in range(1, len(r) + 1):\n                        item = r[len(r) - i]\n                        ascii[-i] += item[barstart:]\n                else:\n                    ascii += r\n        if notfirst and ascii != []:\n            pad = ascii[-1].find('||')\n            result += [' ' * pad + '||', ' ' * pad + '||']\n        else:\n            notfirst = True\n        result += ascii\n    result += ['', '', '']\n    barindex += bars", lit "return os.linesep.join(result)"]),
   (lit "_get_qsize(tuning, width)", [lit "names = [x.to_shorthand() for x in tuning.tuning]", lit "basesize = len(max(names)) + 3", lit "barsize = width - basesize - 2 - 1", lit "return max(0, int(barsize / 4.5))"]),
   (lit "_get_width(maxwidth)", [lit "width = maxwidth // 3", lit "if maxwidth <= 60:\n    width = maxwidth\nelif 60 < maxwidth <= 120:\n    width = maxwidth // 2", lit "return width"])]

theorem tie_tablatureSources : Gen.Tunings.tablatureSources = tablatureSourcesExpected := rfl

/-- `default_tuning = tunings.get_tuning("Guitar", "Standard", 6, 1)` is the standard guitar of the tablature model -/
theorem tie_default_tuning :
    Gen.Tunings.defaultTuningCall = lit "tunings.get_tuning('Guitar', 'Standard', 6, 1)" ∧
    (Tun.getTuning Tun.known (lit "Guitar") (lit "Standard") (some 6) (some 1)).map (fun e => (e.instrument, e.description, e.tuning)) =
      some (lit "Guitar", lit "Standard tuning", Tab.defaultTuning) := by
  decide +kernel

end Mingus.Tie.C20
