import Mingus.Gen.Intervals
import Mingus.Model.Intervals
/- Tie A for C02: the constructor rows translated from mingus/core/intervals.py equal the model's. -/
namespace Mingus.Tie.C02
open Mingus
theorem tie_degreeFns : Gen.Intervals.degreeFns = Intervals.degreeFns := by decide +kernel
theorem tie_ctorTable : Gen.Intervals.ctorTable = Intervals.ctorTable := by decide +kernel
theorem tie_aliasTable : Gen.Intervals.aliasTable = Intervals.aliasTable := by decide +kernel
theorem tie_unisons : Gen.Intervals.unisonBodies =
    [(lit "minor_unison", lit "notes.diminish(note)"), (lit "major_unison", lit "note"),
     (lit "augmented_unison", lit "notes.augment(note)")] := by decide +kernel
end Mingus.Tie.C02
