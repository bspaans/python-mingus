import Mingus.Gen.Midi
import Mingus.Model.Midi
/- Tie A for C16: the MIDI writer's source, statement by statement, as the model reads it.  `Gen.Midi` is regenerated from
   /repo on every run; any change to one of the thirteen constants of `tie_consts`, a class default, or a statement of
   MidiTrack (but `reset`), MidiFile (but `write_file`) or the five write_* functions breaks one of these theorems, and
   the check then searches for a failing input.  The model (Model/Midi.lean) was written against exactly these
   statements; the correspondence (Tie B) compares its bytes with the real writer's on every generated file. -/
namespace Mingus.Tie.C16
open Mingus

def trackDefaultsExpected : List (List Char × List Char) :=
  [(lit "track_data", lit "b''"),
   (lit "delta_time", lit "b'\\x00'"),
   (lit "delay", lit "0"),
   (lit "bpm", lit "120"),
   (lit "change_instrument", lit "False"),
   (lit "instrument", lit "1")]

theorem tie_trackDefaults : Gen.Midi.trackDefaults = trackDefaultsExpected := rfl

def trackSourcesExpected : List (List Char × List (List Char)) :=
  [(lit "__init__", [lit "self.track_data = b''", lit "self.set_tempo(start_bpm)"]),
   (lit "end_of_track", [lit "return b'\\x00\\xff/\\x00'"]),
   (lit "play_Note", [lit "channel = note.channel", lit "velocity = note.velocity", lit "if self.change_instrument:\n    self.set_instrument(channel, self.instrument)\n    self.change_instrument = False\n    self.set_deltatime(0)", lit "assert 0 <= velocity <= 127", lit "self.track_data += self.note_on(channel, int(note) + 12, velocity)"]),
   (lit "play_NoteContainer", [lit "if len(notecontainer) <= 1:\n    [self.play_Note(x) for x in notecontainer]\nelse:\n    self.play_Note(notecontainer[0])\n    self.set_deltatime(0)\n    [self.play_Note(x) for x in notecontainer[1:]]"]),
   (lit "play_Bar", [lit "self.set_deltatime(self.delay)", lit "self.delay = 0", lit "self.set_meter(bar.meter)", lit "self.set_deltatime(0)", lit "self.set_key(bar.key)", lit "for x in bar:\n    tick = int(round(1.0 / x[1] * 288))\n    if x[2] is None or len(x[2]) == 0:\n        self.delay += tick\n    else:\n        self.set_deltatime(self.delay)\n        self.delay = 0\n        if hasattr(x[2], 'bpm'):\n            self.set_tempo(x[2].bpm)\n            self.set_deltatime(0)\n        self.play_NoteContainer(x[2])\n        self.set_deltatime(self.int_to_varbyte(tick))\n        self.stop_NoteContainer(x[2])"]),
   (lit "play_Track", [lit "if hasattr(track, 'name'):\n    self.set_track_name(track.name)", lit "instr = track.instrument", lit "if hasattr(instr, 'instrument_nr'):\n    self.change_instrument = True\n    self.instrument = instr.instrument_nr", lit "for bar in track:\n    self.play_Bar(bar)"]),
   (lit "stop_Note", [lit "channel = note.channel", lit "velocity = note.velocity", lit "self.track_data += self.note_off(channel, int(note) + 12, velocity)"]),
   (lit "stop_NoteContainer", [lit "if len(notecontainer) <= 1:\n    [self.stop_Note(x) for x in notecontainer]\nelse:\n    self.stop_Note(notecontainer[0])\n    self.set_deltatime(0)\n    [self.stop_Note(x) for x in notecontainer[1:]]"]),
   (lit "set_instrument", [lit "self.track_data += self.select_bank(channel, bank)", lit "self.set_deltatime(0)", lit "self.track_data += self.program_change_event(channel, instr)"]),
   (lit "header", [lit "chunk_size = a2b_hex('%08x' % (len(self.track_data) + len(self.end_of_track())))", lit "return TRACK_HEADER + chunk_size"]),
   (lit "get_midi_data", [lit "return self.header() + self.track_data + self.end_of_track()"]),
   (lit "midi_event", [lit "assert 0 <= event_type < 16", lit "assert 0 <= channel < 16", lit "assert 0 <= param1 <= 127", lit "assert param2 is None or 0 <= param2 <= 127", lit "status_byte = channel | event_type << 4", lit "params = [param1]", lit "if param2 is not None:\n    params.append(param2)", lit "return self.delta_time + bytes([status_byte] + params)"]),
   (lit "note_off", [lit "return self.midi_event(NOTE_OFF, channel, note, velocity)"]),
   (lit "note_on", [lit "return self.midi_event(NOTE_ON, channel, note, velocity)"]),
   (lit "controller_event", [lit "return self.midi_event(CONTROLLER, channel, contr_nr, contr_val)"]),
   (lit "set_deltatime", [lit "if isinstance(delta_time, int):\n    delta_time = self.int_to_varbyte(delta_time)", lit "self.delta_time = delta_time"]),
   (lit "select_bank", [lit "return self.controller_event(channel, BANK_SELECT, bank)"]),
   (lit "program_change_event", [lit "return self.midi_event(PROGRAM_CHANGE, channel, instr)"]),
   (lit "set_tempo", [lit "self.bpm = bpm", lit "self.track_data += self.set_tempo_event(self.bpm)"]),
   (lit "set_tempo_event", [lit "ms_per_min = 60000000", lit "mpqn = a2b_hex('%06x' % (ms_per_min // bpm))", lit "return self.delta_time + META_EVENT + SET_TEMPO + b'\\x03' + mpqn"]),
   (lit "set_meter", [lit "self.track_data += self.time_signature_event(meter)"]),
   (lit "time_signature_event", [lit "numer = a2b_hex('%02x' % meter[0])", lit "denom = a2b_hex('%02x' % int(log(meter[1], 2)))", lit "return self.delta_time + META_EVENT + TIME_SIGNATURE + b'\\x04' + numer + denom + b'\\x18\\x08'"]),
   (lit "set_key", [lit "if isinstance(key, Key):\n    key = key.key", lit "self.track_data += self.key_signature_event(key)"]),
   (lit "key_signature_event", [lit "if str(key).islower():\n    val = minor_keys.index(key) - 7\n    mode = b'\\x01'\nelse:\n    val = major_keys.index(key) - 7\n    mode = b'\\x00'", lit "if val < 0:\n    val = 256 + val", lit "key = a2b_hex('%02x' % val)", lit "return self.delta_time + META_EVENT + KEY_SIGNATURE + b'\\x02' + key + mode"]),
   (lit "set_track_name", [lit "self.track_data += self.track_name_event(name)"]),
   (lit "track_name_event", [lit "l = self.int_to_varbyte(len(name))", lit "return b'\\x00' + META_EVENT + TRACK_NAME + l + name.encode('ascii')"]),
   (lit "int_to_varbyte", [lit "length = int(log(max(value, 1), 128)) + 1", lit "bytes = [value >> i * 7 & 127 for i in range(length)]", lit "bytes.reverse()", lit "for i in range(len(bytes) - 1):\n    bytes[i] = bytes[i] | 128", lit "return pack('%sB' % len(bytes), *bytes)"])]

theorem tie_trackSources : Gen.Midi.trackSources = trackSourcesExpected := rfl

def fileDefaultsExpected : List (List Char × List Char) :=
  [(lit "tracks", lit "[]"),
   (lit "time_division", lit "b'\\x00H'")]

theorem tie_fileDefaults : Gen.Midi.fileDefaults = fileDefaultsExpected := rfl

def fileSourcesExpected : List (List Char × List (List Char)) :=
  [(lit "__init__", [lit "if tracks is None:\n    tracks = []", lit "self.reset()", lit "self.tracks = tracks"]),
   (lit "get_midi_data", [lit "tracks = [t.get_midi_data() for t in self.tracks if t.track_data != b'']", lit "return self.header() + b''.join(tracks)"]),
   (lit "header", [lit "tracks = a2b_hex('%04x' % len([t for t in self.tracks if t.track_data != '']))", lit "return b'MThd\\x00\\x00\\x00\\x06\\x00\\x01' + tracks + self.time_division"]),
   (lit "reset", [lit "[t.reset() for t in self.tracks]"])]

theorem tie_fileSources : Gen.Midi.fileSources = fileSourcesExpected := rfl

def writerSourcesExpected : List (List Char × List (List Char)) :=
  [(lit "write_Note(file, note, bpm=120, repeat=0, verbose=False)", [lit "m = MidiFile()", lit "t = MidiTrack(bpm)", lit "m.tracks = [t]", lit "while repeat >= 0:\n    t.set_deltatime(b'\\x00')\n    t.play_Note(note)\n    t.set_deltatime(b'H')\n    t.stop_Note(note)\n    repeat -= 1", lit "return m.write_file(file, verbose)"]),
   (lit "write_NoteContainer(file, notecontainer, bpm=120, repeat=0, verbose=False)", [lit "m = MidiFile()", lit "t = MidiTrack(bpm)", lit "m.tracks = [t]", lit "while repeat >= 0:\n    t.set_deltatime(b'\\x00')\n    t.play_NoteContainer(notecontainer)\n    t.set_deltatime(b'H')\n    t.stop_NoteContainer(notecontainer)\n    repeat -= 1", lit "return m.write_file(file, verbose)"]),
   (lit "write_Bar(file, bar, bpm=120, repeat=0, verbose=False)", [lit "m = MidiFile()", lit "t = MidiTrack(bpm)", lit "m.tracks = [t]", lit "while repeat >= 0:\n    t.play_Bar(bar)\n    repeat -= 1", lit "return m.write_file(file, verbose)"]),
   (lit "write_Track(file, track, bpm=120, repeat=0, verbose=False)", [lit "m = MidiFile()", lit "t = MidiTrack(bpm)", lit "m.tracks = [t]", lit "while repeat >= 0:\n    t.play_Track(track)\n    repeat -= 1", lit "return m.write_file(file, verbose)"]),
   (lit "write_Composition(file, composition, bpm=120, repeat=0, verbose=False)", [lit "m = MidiFile()", lit "t = []", lit "for x in range(len(composition.tracks)):\n    t += [MidiTrack(bpm)]", lit "m.tracks = t", lit "while repeat >= 0:\n    for i in range(len(composition.tracks)):\n        m.tracks[i].play_Track(composition.tracks[i])\n    repeat -= 1", lit "return m.write_file(file, verbose)"])]

theorem tie_writerSources : Gen.Midi.writerSources = writerSourcesExpected := rfl

/-- the constants the model's events are built from -/
theorem tie_consts :
    [lit "NOTE_OFF", lit "NOTE_ON", lit "CONTROLLER", lit "PROGRAM_CHANGE", lit "BANK_SELECT"].map (Gen.Midi.intConsts.lookup ·)
      = [some 8, some 9, some 11, some 12, some 0] ∧
    [lit "FILE_HEADER", lit "TRACK_HEADER", lit "META_EVENT", lit "TRACK_NAME", lit "END_OF_TRACK", lit "SET_TEMPO",
     lit "TIME_SIGNATURE", lit "KEY_SIGNATURE"].map (Gen.Midi.byteConsts.lookup ·)
      = [some [77, 84, 104, 100], some [77, 84, 114, 107], some [255], some [3], some [47], some [81], some [88], some [89]] := by
  decide +kernel

/-- … and the model's bytes for one of each kind of event agree with those constants -/
theorem tie_model_events :
    (Midi.Ev.chan2 9 3 60 64).bytes = [9 * 16 + 3, 60, 64] ∧ (Midi.Ev.chan2 8 3 60 64).bytes = [8 * 16 + 3, 60, 64] ∧
    (Midi.Ev.chan2 11 3 0 1).bytes = [11 * 16 + 3, 0, 1] ∧ (Midi.Ev.chan1 12 3 42).bytes = [12 * 16 + 3, 42] ∧
    (Midi.Ev.metaE 81 [7, 161, 32]).bytes = [255, 81, 3, 7, 161, 32] ∧
    (Midi.MT.chunk {}).take 4 = [77, 84, 114, 107] ∧ (Midi.MT.chunk {}).drop 8 = [0, 255, 47, 0] ∧
    (Midi.fileBytes []) = [77, 84, 104, 100, 0, 0, 0, 6, 0, 1, 0, 0, 0, 72] := by
  decide +kernel

end Mingus.Tie.C16
