import Mingus.Gen.Chords
import Mingus.Gen.Intervals
import Mingus.Model.Chords
import Mingus.Tie.C06
/- Tie A for C07: the if/elif tables of the five recognisers and `int_desc`, translated from chords.py, equal the
   model's; the builder and meaning tables as in C06. -/
namespace Mingus.Tie.C07
open Mingus Mingus.Chords
theorem tie_triadTable : Gen.Chords.triadTable = triadTable := by decide +kernel
theorem tie_seventhTable : Gen.Chords.seventhTable = seventhTable := by decide +kernel
theorem tie_ext5Table : Gen.Chords.ext5Table = ext5Table := by decide +kernel
theorem tie_ext6Table : Gen.Chords.ext6Table = ext6Table := by decide +kernel
theorem tie_ext7Table : Gen.Chords.ext7Table = ext7Table := by decide +kernel
theorem tie_intDesc : Gen.Chords.intDesc = intDesc := by decide +kernel
theorem tie_chordShorthand : Tie.C06.sameMap Gen.Chords.chordShorthand chordShorthand = true := Tie.C06.tie_chordShorthand
theorem tie_chordMeaning : Tie.C06.sameMap Gen.Chords.chordMeaning chordMeaning = true := Tie.C06.tie_chordMeaning
theorem tie_fifthSteps : Gen.Intervals.fifthSteps = Intervals.fifthSteps := by decide +kernel
end Mingus.Tie.C07
