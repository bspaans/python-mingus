import Mingus.Gen.Scales
import Mingus.Gen.Keys
import Mingus.Gen.Intervals
import Mingus.Model.Scales
/- Tie A for C05: class order and types (what `determine` scans), the modes' semitone positions, and the
   straight-line bodies of the key-derived classes (base expression + alterations). -/
namespace Mingus.Tie.C05
open Mingus Mingus.Scales

def kindName : Kind → Str
  | .diatonic _ => lit "Diatonic" | .ionian => lit "Ionian" | .dorian => lit "Dorian" | .phrygian => lit "Phrygian"
  | .lydian => lit "Lydian" | .mixolydian => lit "Mixolydian" | .aeolian => lit "Aeolian" | .locrian => lit "Locrian"
  | .major => lit "Major" | .harmonicMajor => lit "HarmonicMajor" | .naturalMinor => lit "NaturalMinor"
  | .harmonicMinor => lit "HarmonicMinor" | .melodicMinor => lit "MelodicMinor" | .bachian => lit "Bachian"
  | .minorNeapolitan => lit "MinorNeapolitan" | .chromatic => lit "Chromatic" | .wholeTone => lit "WholeTone"
  | .octatonic => lit "Octatonic"

theorem tie_classOrder :
    Gen.Scales.classOrder = (lit "Diatonic", lit "diatonic") :: classOrder.map (fun kc => (kindName kc.1, kc.2)) := by
  decide +kernel
theorem tie_modeTable : Gen.Scales.modeTable = modeTable := by decide +kernel
theorem tie_modeSemis : ∀ r ∈ modeTable, ∃ k, kindName k = r.1 ∧ modeSemis k = some [r.2.1, r.2.2] := by
  intro r hr
  simp only [modeTable, List.mem_cons, List.mem_nil_iff, or_false] at hr
  rcases hr with e | e | e | e | e | e | e <;> subst e
  · exact ⟨.ionian, rfl, rfl⟩
  · exact ⟨.dorian, rfl, rfl⟩
  · exact ⟨.phrygian, rfl, rfl⟩
  · exact ⟨.lydian, rfl, rfl⟩
  · exact ⟨.mixolydian, rfl, rfl⟩
  · exact ⟨.aeolian, rfl, rfl⟩
  · exact ⟨.locrian, rfl, rfl⟩

/-- the key-derived classes: base expression and `notes[i] = augment|diminish(notes[i])` lines, as modelled in
    `Scales.baseAsc` / `Scales.descending` -/
theorem tie_derived : Gen.Scales.derived =
    ([(lit "Major", lit "ascending", lit "get_notes(self.tonic)", []),
     (lit "HarmonicMajor", lit "ascending", lit "Major(self.tonic).ascending()[:-1]", [(5, lit "diminish")]),
     (lit "NaturalMinor", lit "ascending", lit "get_notes(self.tonic.lower())", []),
     (lit "HarmonicMinor", lit "ascending", lit "NaturalMinor(self.tonic).ascending()[:-1]", [(6, lit "augment")]),
     (lit "MelodicMinor", lit "ascending", lit "NaturalMinor(self.tonic).ascending()[:-1]",
        [(5, lit "augment"), (6, lit "augment")]),
     (lit "MelodicMinor", lit "descending", lit "NaturalMinor(self.tonic).descending()[:-1]", []),
     (lit "Bachian", lit "ascending", lit "MelodicMinor(self.tonic).ascending()[:-1]", []),
     (lit "MinorNeapolitan", lit "ascending", lit "HarmonicMinor(self.tonic).ascending()[:-1]", [(1, lit "diminish")]),
     (lit "MinorNeapolitan", lit "descending", lit "NaturalMinor(self.tonic).descending()[:-1]", [(6, lit "diminish")])] :
      List (List Char × List Char × List Char × List (Nat × List Char))) := by
  rfl
theorem tie_keys : Gen.Keys.keys = Keys.keys := by decide +kernel
theorem tie_ctorTable : Gen.Intervals.ctorTable = Intervals.ctorTable := by decide +kernel
end Mingus.Tie.C05
