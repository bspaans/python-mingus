import Mingus.Gen.Note
import Mingus.Gen.Bar
import Mingus.Gen.Intervals
import Mingus.Model.Containers
/- Tie A for C11: the source of Note.transpose's octave fix-up and of the per-note loops of NoteContainer / Bar / Track,
   as mirrored by `Note.transpose`, `NC.transpose`, `Bar.mapContent`, `Track.mapBars`; the interval tables behind them. -/
namespace Mingus.Tie.C11
open Mingus
def nl : Str := [Char.ofNat 10]
theorem tie_transpose : Gen.Note.transposeSource =
    [lit "old, o_octave = (self.name, self.octave)", lit "self.name = intervals.from_shorthand(self.name, interval, up)",
     lit "if up:" ++ nl ++ lit "    if self < Note(old, o_octave):" ++ nl ++ lit "        self.octave += 1" ++ nl ++
       lit "elif self > Note(old, o_octave):" ++ nl ++ lit "    self.octave -= 1"] := by decide +kernel
theorem tie_changeOctave : Gen.Note.changeOctaveSource =
    [lit "self.octave += diff", lit "if self.octave < 0:" ++ nl ++ lit "    self.octave = 0"] := by decide +kernel
theorem tie_barLift : Gen.Bar.liftSource =
    [lit "for cont in self.bar:" ++ nl ++ lit "    if self._is_note(cont[2]):" ++ nl ++ lit "        cont[2].augment()",
     lit "for cont in self.bar:" ++ nl ++ lit "    if self._is_note(cont[2]):" ++ nl ++ lit "        cont[2].diminish()",
     lit "for cont in self.bar:" ++ nl ++ lit "    if self._is_note(cont[2]):" ++ nl ++ lit "        cont[2].transpose(interval, up)"] := by
  decide +kernel
theorem tie_trackLift : Gen.Bar.trackLiftSource =
    [lit "for bar in self.bars:" ++ nl ++ lit "    bar.transpose(interval, up)", lit "return self",
     lit "for bar in self.bars:" ++ nl ++ lit "    bar.augment()", lit "return self",
     lit "for bar in self.bars:" ++ nl ++ lit "    bar.diminish()", lit "return self"] := by decide +kernel
theorem tie_ncLift : Gen.Bar.ncLiftSource =
    [lit "for n in self.notes:" ++ nl ++ lit "    n.augment()", lit "for n in self.notes:" ++ nl ++ lit "    n.diminish()",
     lit "for n in self.notes:" ++ nl ++ lit "    n.transpose(interval, up)", lit "return self"] := by decide +kernel
theorem tie_shorthandLookup : Gen.Intervals.shorthandLookup = Intervals.shorthandLookup := by decide +kernel
theorem tie_ctorTable : Gen.Intervals.ctorTable = Intervals.ctorTable := by decide +kernel
end Mingus.Tie.C11
