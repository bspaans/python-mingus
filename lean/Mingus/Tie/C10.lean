import Mingus.Gen.Note
import Mingus.Gen.Notes
import Mingus.Model.Note
/- Tie A for C10: defaults and MIDI bounds of Note, the note-name tables, and the source text of the two Hz formulas
   (whose constants 57, 12, 1024, 1/24, 9, 6 are what Props/C10Hz.lean idealises over the reals). -/
namespace Mingus.Tie.C10
open Mingus
theorem tie_defaults : Gen.Note.defaultName = lit "C" ∧ Gen.Note.defaults = [4, 1, 64] := by decide +kernel
theorem tie_bounds : Gen.Note.channelBound = (0, lit "LtE", lit "Lt", 16) ∧
    Gen.Note.velocityBound = (0, lit "LtE", lit "Lt", 128) := by decide +kernel
theorem tie_hz : Gen.Note.hzSource =
    [lit "diff = self.__int__() - 57", lit "return 2 ** (diff / 12.0) * standard_pitch",
     lit "value = (log(float(hertz) * 1024 / standard_pitch, 2) + 1.0 / 24) * 12 + 9",
     lit "self.name = notes.int_to_note(int(value) % 12)", lit "self.octave = int(value / 12) - 6", lit "return self"] := by
  decide +kernel
theorem tie_noteDict : Gen.Notes.noteDict = Notes.noteDict := by decide +kernel
theorem tie_ns : Gen.Notes.ns = Notes.ns := by decide +kernel
end Mingus.Tie.C10
