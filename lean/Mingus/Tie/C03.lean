import Mingus.Gen.Intervals
import Mingus.Gen.Notes
import Mingus.Model.Intervals
/- Tie A for C03: the tables of `determine` and `from_shorthand` translated from the source. -/
namespace Mingus.Tie.C03
open Mingus
theorem tie_fifthSteps : Gen.Intervals.fifthSteps = Intervals.fifthSteps := by decide +kernel
theorem tie_shorthandLookup : Gen.Intervals.shorthandLookup = Intervals.shorthandLookup := by decide +kernel
theorem tie_fifths : Gen.Notes.fifths = Notes.fifths := by decide +kernel
theorem tie_ctorTable : Gen.Intervals.ctorTable = Intervals.ctorTable := by decide +kernel
theorem tie_aliasTable : Gen.Intervals.aliasTable = Intervals.aliasTable := by decide +kernel
end Mingus.Tie.C03
