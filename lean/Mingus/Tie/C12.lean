import Mingus.Gen.NoteContainer
import Mingus.Gen.Note
import Mingus.Gen.Chords
import Mingus.Model.Containers
import Mingus.Tie.C06
/- Tie A for C12: the octave expressions of `add_note` (given octave, 4 for an empty container, the top note's octave,
   that octave + 1), the default octave of `remove_note`, the duplicate test; the chord table used by the constructors. -/
namespace Mingus.Tie.C12
open Mingus
theorem tie_addNoteOctaves : Gen.NoteContainer.addNoteOctaves =
    [lit "octave", lit "4", lit "self.notes[-1].octave", lit "self.notes[-1].octave + 1", lit "self.notes[-1].octave"] := by decide +kernel
theorem tie_removeDefault : Gen.NoteContainer.removeDefaultOctave = -1 := by decide +kernel
theorem tie_duplicateTest : Gen.NoteContainer.duplicateTest = [lit "note not in self.notes"] := by decide +kernel
theorem tie_noteDefaults : Gen.Note.defaults = [4, 1, 64] := by decide +kernel
theorem tie_chordShorthand : Tie.C06.sameMap Gen.Chords.chordShorthand Chords.chordShorthand = true := Tie.C06.tie_chordShorthand
end Mingus.Tie.C12
