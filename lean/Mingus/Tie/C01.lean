import Mingus.Gen.Notes
import Mingus.Model.Notes
/- Tie A for C01: the tables regenerated from mingus/core/notes.py equal the model's. -/
namespace Mingus.Tie.C01
theorem tie_noteDict : Gen.Notes.noteDict = Notes.noteDict := by decide +kernel
theorem tie_fifths : Gen.Notes.fifths = Notes.fifths := by decide +kernel
theorem tie_ns : Gen.Notes.ns = Notes.ns := by decide +kernel
theorem tie_nf : Gen.Notes.nf = Notes.nf := by decide +kernel
end Mingus.Tie.C01
