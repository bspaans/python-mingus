import Mingus.Lemmas.Containers
import Mathlib.Tactic.Linarith
import Mathlib.Tactic.Ring
import Mathlib.Tactic.FieldSimp
import Mathlib.Algebra.Order.Field.Rat
/-
  C13 — bar time accounting is exact under any placement history.
  The specification is the *exact* bar over ℚ (lengths are 1/value computed rationally).  The implementation's float bar
  (Model/Containers.lean, IEEE-exact) is compared with it in C13Dyadic.lean: it agrees on power-of-two values and differs
  on the recorded finding (an exact fill refused after rounding).
-/
namespace Mingus.Props.C13
open Mingus Mingus.Containers

structure XEntry where
  start : Rat
  value : Rat
  content : Option NC

structure XBar where
  length : Rat
  current : Rat := 0
  entries : List XEntry := []

def total (es : List XEntry) : Rat := (es.map fun e => 1 / e.value).sum

inductive XOp
  | place (content : Option NC) (v : Rat)      -- `none` is a rest
  | removeLast
  | setItem (i : Nat) (content : Option NC)
  | placeAt (at_ : Rat) (f : NC → NC)          -- `place_notes_at`: add notes to the sounding entry that starts at `at_`

def accepts (b : XBar) (v : Rat) : Prop := b.current + 1 / v ≤ b.length ∨ b.length = 0
instance (b : XBar) (v : Rat) : Decidable (accepts b v) := by unfold accepts; infer_instance

def setContentAt : List XEntry → Nat → Option NC → List XEntry
  | [], _, _ => []
  | e :: t, 0, c => { e with content := c } :: t
  | e :: t, i+1, c => e :: setContentAt t i c

def xstep (b : XBar) : XOp → XBar
  | .place c v =>
    if accepts b v then { b with entries := b.entries ++ [⟨b.current, v, c⟩], current := b.current + 1 / v } else b
  | .removeLast =>
    match b.entries.getLast? with
    | none => b
    | some e => { b with entries := b.entries.dropLast, current := b.current - 1 / e.value }
  | .setItem i c => { b with entries := setContentAt b.entries i c }
  | .placeAt a f => { b with entries := b.entries.map fun e => if e.start = a then { e with content := e.content.map f } else e }

def StartsOK : Rat → List XEntry → Prop
  | _, [] => True
  | s, e :: es => e.start = s ∧ StartsOK (s + 1 / e.value) es

def Inv (b : XBar) : Prop := StartsOK 0 b.entries ∧ b.current = total b.entries

theorem total_append (a b : List XEntry) : total (a ++ b) = total a + total b := by
  simp [total, List.sum_append]

theorem starts_append (s : Rat) (a : List XEntry) (e : XEntry) :
    StartsOK s (a ++ [e]) ↔ StartsOK s a ∧ e.start = s + total a := by
  induction a generalizing s with
  | nil => simp [StartsOK, total]
  | cons x xs ih =>
    simp only [List.cons_append, StartsOK, ih, total, List.map_cons, List.sum_cons]
    constructor
    · rintro ⟨h1, h2, h3⟩; exact ⟨⟨h1, h2⟩, by rw [h3]; ring⟩
    · rintro ⟨⟨h1, h2⟩, h3⟩; exact ⟨h1, h2, by rw [h3]; ring⟩

def timing (es : List XEntry) : List (Rat × Rat) := es.map fun e => (e.start, e.value)

theorem timing_determines (a b : List XEntry) (h : timing a = timing b) (s : Rat) :
    (StartsOK s a ↔ StartsOK s b) ∧ total a = total b := by
  induction a generalizing b s with
  | nil =>
    cases b with
    | nil => simp
    | cons y ys => simp [timing] at h
  | cons x xs ih =>
    cases b with
    | nil => simp [timing] at h
    | cons y ys =>
      simp only [timing, List.map_cons, List.cons.injEq, Prod.mk.injEq] at h
      obtain ⟨⟨hs, hv⟩, ht⟩ := h
      have := ih ys ht (s + 1 / x.value)
      simp only [StartsOK, total, List.map_cons, List.sum_cons, hs, hv]
      rw [hv] at this
      exact ⟨by rw [this.1], by have := this.2; simp only [total] at this; rw [this]⟩

theorem timing_setContentAt (es : List XEntry) (i : Nat) (c : Option NC) : timing (setContentAt es i c) = timing es := by
  induction es generalizing i with
  | nil => rfl
  | cons e t ih =>
    cases i with
    | zero => simp [setContentAt, timing]
    | succ k => simp only [setContentAt, timing, List.map_cons] at ih ⊢; rw [ih k]

theorem timing_placeAt (es : List XEntry) (a : Rat) (f : NC → NC) :
    timing (es.map fun e => if e.start = a then { e with content := e.content.map f } else e) = timing es := by
  simp only [timing, List.map_map]
  apply List.map_congr_left
  intro e _
  simp only [Function.comp]
  split <;> rfl

theorem Inv.of_timing {b b' : XBar} (h : Inv b) (ht : timing b'.entries = timing b.entries)
    (hc : b'.current = b.current) : Inv b' := by
  have := timing_determines _ _ ht 0
  exact ⟨this.1.2 h.1, by rw [hc, this.2]; exact h.2⟩

theorem step_inv (b : XBar) (op : XOp) (h : Inv b) : Inv (xstep b op) := by
  have ⟨h1, h2⟩ := h
  cases op with
  | place c v =>
    simp only [xstep]
    split
    · refine ⟨(starts_append 0 _ _).2 ⟨h1, by simp [h2]⟩, ?_⟩
      simp [total, h2]
    · exact ⟨h1, h2⟩
  | removeLast =>
    simp only [xstep]
    cases hl : b.entries.getLast? with
    | none => exact ⟨h1, h2⟩
    | some e =>
      rw [← List.dropLast_append_getLast? e hl] at h1 h2
      exact ⟨((starts_append 0 _ _).1 h1).1, by simp [h2, total]⟩
  | setItem i c => exact h.of_timing (timing_setContentAt ..) rfl
  | placeAt a f => exact h.of_timing (timing_placeAt ..) rfl

theorem history_inv (len : Rat) (ops : List XOp) : Inv (ops.foldl xstep { length := len }) :=
  List.foldlRecOn ops xstep ⟨trivial, by simp [total]⟩ fun b h op _ => step_inv b op h

/-- `space_left` is `length - current_beat` in the code, so this clause of the property is an identity -/
theorem current_plus_space (b : XBar) : b.current + (b.length - b.current) = b.length := by ring

theorem place_spec (b : XBar) (c : Option NC) (v : Rat) (h : Inv b) :
    (accepts b v ↔ total b.entries + 1 / v ≤ b.length ∨ b.length = 0) ∧
    (accepts b v → (xstep b (.place c v)).entries = b.entries ++ [⟨total b.entries, v, c⟩]) ∧
    (¬ accepts b v → xstep b (.place c v) = b) := by
  refine ⟨by unfold accepts; rw [h.2], ?_, ?_⟩
  · intro ha; simp [xstep, ha, h.2]
  · intro ha; simp [xstep, ha]

theorem content_ops_keep_timing (b : XBar) (i : Nat) (c : Option NC) (a : Rat) (f : NC → NC) :
    timing (xstep b (.setItem i c)).entries = timing b.entries ∧ (xstep b (.setItem i c)).current = b.current ∧
    timing (xstep b (.placeAt a f)).entries = timing b.entries ∧ (xstep b (.placeAt a f)).current = b.current :=
  ⟨timing_setContentAt _ _ _, rfl, timing_placeAt _ _ _, rfl⟩

theorem setItem_only_that_entry (es : List XEntry) (i : Nat) (c : Option NC) (j : Nat) (hj : j ≠ i) :
    (setContentAt es i c)[j]? = es[j]? := by
  induction es generalizing i j with
  | nil => rfl
  | cons e t ih =>
    cases i with
    | zero =>
      cases j with
      | zero => exact absurd rfl hj
      | succ k => simp [setContentAt]
    | succ n =>
      cases j with
      | zero => simp [setContentAt]
      | succ k => simp only [setContentAt, List.getElem?_cons_succ]; exact ih n k (by omega)

/-- `Bar.is_full`: the slack 0.001 is the code's; length 0 is the unbounded meter -/
def isFullX (b : XBar) : Bool := !(b.length == 0) && !b.entries.isEmpty && decide (b.length - b.current ≤ 1 / 1000)
theorem isFull_spec (b : XBar) :
    isFullX b = true ↔ b.entries ≠ [] ∧ b.length ≠ 0 ∧ b.length - b.current ≤ 1 / 1000 := by
  simp [isFullX]; tauto

theorem setMeter_spec (b : Bar) (count : Int) (unit : Rat) :
    (Bar.isPow2Rat unit = true → ∃ b', Bar.setMeter b count unit = .ok b' ∧ b'.meter = (count, unit)) ∧
    (Bar.setMeter b 0 0 = .ok { b with meter := (0, 0), length := 0 }) ∧
    (Bar.isPow2Rat unit = false → ¬ (count = 0 ∧ unit = 0) → Bar.setMeter b count unit = .error .meterFormat) := by
  have h00 : Bar.isPow2Rat 0 = false := by decide +kernel
  refine ⟨?_, by simp [Bar.setMeter, h00], ?_⟩
  · intro h
    exact ⟨_, Bar.setMeter_pow2 b count h, rfl⟩
  · intro h hn; simp [Bar.setMeter, h, hn]

example : (([XOp.place (some []) 4, .place none 8, .removeLast, .place none (8/3), .setItem 0 none].foldl xstep { length := 3/4 }).current = 5/8) := by
  decide +kernel

end Mingus.Props.C13
