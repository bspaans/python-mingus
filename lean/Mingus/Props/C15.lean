import Mingus.Model.Alias
import Mingus.Lemmas.Except
/-
  C15 — no hidden shared state.  Explicit-heap models: results of memoised queries are *fresh* cells (the repaired code),
  so whatever the caller does to the lists it was handed, every later query returns the pure value.  The `ref` variant
  (cached cell handed out, the code before the repair) is refuted by a concrete history.
-/
namespace Mingus.Props.C15
open Mingus Mingus.Alias

theorem read_write (h : Heap) (c c' : Nat) (v : Rows) :
    (h.write c v).read c' = if c' = c then v else h.read c' := by
  unfold Heap.read Heap.write
  split
  · simp [*]
  · rename_i e
    rw [List.lookup_cons, beq_false_of_ne e]
    congr 1
    induction h.store with
    | nil => rfl
    | cons x xs ih =>
      obtain ⟨k, w⟩ := x
      by_cases hk : k = c
      · simp [List.lookup_cons, hk, ih, beq_false_of_ne e]
      · simp [List.lookup_cons, hk, ih]

/-- `hand` and `memo` both put the new value into the fresh cell `h.next` -/
theorem read_fresh {h h' : Heap} {v : Rows} (e : h'.store = (h.next, v) :: h.store) (c' : Nat) :
    h'.read c' = if c' = h.next then v else h.read c' := by
  rw [Heap.read, e, List.lookup_cons]; split <;> simp_all [Heap.read]

structure Inv (h : Heap) : Prop where
  cached : ∀ t k cell, ((t, k), cell) ∈ h.cache → tableValue t k = .ok (h.read cell) ∧ cell ∉ h.handed ∧ cell < h.next
  handedLt : ∀ c ∈ h.handed, c < h.next

theorem memo_pure (q : Query) (hq : ∀ n k', q ≠ .toChords n k') :
    (match memoKey q with
      | none => .error .key
      | some (t, k) => (tableValue t k).bind (project q)) = pureAnswer q := by
  cases q with
  | getNotes k => show (Except.map _ _).bind _ = Except.map _ _; cases Keys.getNotes k <;> rfl
  | triads k => show (Chords.triads k).bind _ = Chords.triads k; cases Chords.triads k <;> rfl
  | sevenths k => show (Chords.sevenths k).bind _ = Chords.sevenths k; cases Chords.sevenths k <;> rfl
  | func name k =>
    simp only [memoKey, pureAnswer, Chords.chordFunction]
    cases hl : Chords.functionTable.lookup name with
    | none => rfl
    | some r =>
      obtain ⟨sev, i⟩ := r
      have key : ∀ rows : Except Err Rows, rows.bind (project (.func name k)) =
          Except.map (fun l => [l]) (rows >>= fun r => match r[i]? with | some x => pure x | none => throw .index) := by
        rintro (e | tb)
        · rfl
        · cases h : tb[i]? <;>
            simp [Except.bind, project, hl, h, Except.map]
      cases sev
      · exact key (Chords.triads k)
      · exact key (Chords.sevenths k)
  | toChords n k => exact absurd rfl (hq n k)

theorem inv_hand (h : Heap) (hi : Inv h) (v : Rows) : Inv (h.hand v) := by
  constructor
  · intro t k cell hc
    obtain ⟨h1, h2, h3⟩ := hi.cached t k cell hc
    have hne : cell ≠ h.next := by omega
    refine ⟨by rw [read_fresh rfl, if_neg hne]; exact h1, ?_, Nat.lt_succ_of_lt h3⟩
    simp only [Heap.hand, List.mem_append, List.mem_singleton, not_or]; exact ⟨h2, hne⟩
  · intro c hc
    simp only [Heap.hand, List.mem_append, List.mem_singleton] at hc ⊢
    rcases hc with e | e
    · have := hi.handedLt c e; omega
    · omega

theorem inv_memo (h : Heap) (hi : Inv h) (t : Nat) (k : Str) (table : Rows) (ht : tableValue t k = .ok table) :
    Inv (h.memo t k table) := by
  constructor
  · intro t' k' cell hc
    simp only [Heap.memo, List.mem_cons, Prod.mk.injEq] at hc
    rcases hc with ⟨⟨rfl, rfl⟩, rfl⟩ | hc
    · exact ⟨by rw [read_fresh rfl, if_pos rfl]; exact ht, fun hm => Nat.lt_irrefl _ (hi.handedLt _ hm), Nat.lt_succ_self _⟩
    · obtain ⟨h1, h2, h3⟩ := hi.cached t' k' cell hc
      exact ⟨by rw [read_fresh rfl, if_neg (Nat.ne_of_lt h3)]; exact h1, h2, Nat.lt_succ_of_lt h3⟩
  · exact fun c hc => Nat.lt_succ_of_lt (hi.handedLt c hc)

theorem inv_write (h : Heap) (hi : Inv h) (c : Nat) (hc : c ∈ h.handed) (v : Rows) : Inv (h.write c v) := by
  refine ⟨fun t k cell hcell => ?_, hi.handedLt⟩
  obtain ⟨h1, h2, h3⟩ := hi.cached t k cell hcell
  have hne : cell ≠ c := fun e => h2 (e ▸ hc)
  exact ⟨by rw [read_write, if_neg hne]; exact h1, h2, h3⟩

theorem step_caller (fresh : Bool) (h : Heap) (c : Call) (hc : ∀ q, c ≠ .query q) :
    step fresh h c = match h.handed[callIndex c]? with
      | none => (h, .ok [])
      | some cell => (h.write cell (mutateRows (h.read cell) c), .ok []) := by
  cases c with
  | query q => exact absurd rfl (hc q)
  | _ => rfl

theorem step_mut (h : Heap) (hi : Inv h) (c : Call) (hc : ∀ q, c ≠ .query q) :
    Inv (step true h c).1 ∧ (step true h c).2 = .ok [] := by
  rw [step_caller true h c hc]
  split
  · exact ⟨hi, rfl⟩
  · exact ⟨inv_write h hi _ (List.mem_of_getElem? ‹_›) _, rfl⟩

theorem step_memo (h : Heap) (hi : Inv h) (q : Query) (hq : ∀ n k', q ≠ .toChords n k') :
    Inv (memoStep true h q).1 ∧ (memoStep true h q).2 = pureAnswer q := by
  have hp := memo_pure q hq
  unfold memoStep
  cases hk : memoKey q with
  | none => rw [hk] at hp; exact ⟨hi, hp⟩
  | some tk =>
    obtain ⟨t, k⟩ := tk
    rw [hk] at hp
    simp only at hp ⊢
    cases hl : h.cache.lookup (t, k) with
    | some cell =>
      obtain ⟨l₁, l₂, hc, _⟩ := List.lookup_eq_some_iff.1 hl
      obtain ⟨h1, _, _⟩ := hi.cached t k cell (by simp [hc])
      rw [h1] at hp
      change project q (h.read cell) = _ at hp
      simp only
      cases hpr : project q (h.read cell) with
      | error e => exact ⟨hi, hpr.symm.trans hp⟩
      | ok ans => exact ⟨inv_hand h hi ans, hpr.symm.trans hp⟩
    | none =>
      simp only
      cases ht : tableValue t k with
      | error e => exact ⟨hi, by rw [← hp, ht]; rfl⟩
      | ok table =>
        rw [ht] at hp
        change project q table = _ at hp
        simp only
        cases hpr : project q table with
        | error e => exact ⟨inv_memo h hi t k table ht, hpr.symm.trans hp⟩
        | ok ans => exact ⟨inv_hand _ (inv_memo h hi t k table ht) ans, hpr.symm.trans hp⟩

def answer : Call → Except Err Rows
  | .query q => pureAnswer q
  | _ => .ok []

theorem step_fresh (h : Heap) (hi : Inv h) (c : Call) : Inv (step true h c).1 ∧ (step true h c).2 = answer c := by
  cases c with
  | query q =>
    cases q with
    | toChords n k =>
      simp only [step, answer]
      cases pureAnswer (.toChords n k) with
      | error e => exact ⟨hi, rfl⟩
      | ok v => exact ⟨inv_hand h hi v, rfl⟩
    | _ => exact step_memo h hi _ nofun
  | _ => exact step_mut h hi _ nofun

theorem inv_init : Inv {} := ⟨nofun, nofun⟩

theorem run_fresh (calls : List Call) : (run true calls).2 = calls.map answer := by
  refine (foldl_inv _ (fun (s : Heap × List (Except Err Rows)) (done : List Call) => Inv s.1 ∧ s.2 = done.map answer)
    calls ({}, []) ⟨inv_init, rfl⟩ ?_).2
  rintro ⟨h, out⟩ c - done ⟨hi, rfl⟩
  obtain ⟨hs1, hs2⟩ := step_fresh h hi c
  exact ⟨hs1, by simp [hs2]⟩

/-- memo transparency: after ANY history of queries and of caller mutations of the lists it was handed, every query is
    answered with its pure value -/
theorem memo_transparent (calls : List Call) :
    ∀ (i : Nat) (q : Query), calls[i]? = some (Call.query q) → (run true calls).2[i]? = some (pureAnswer q) := by
  intro i q hq
  rw [run_fresh, List.getElem?_map, hq]; rfl

/-- the unrepaired behaviour (cached cell handed out) is refuted: appending to the list returned by `tonic('C')` changes
    what the next `tonic('C')` returns -/
theorem ref_counterexample :
    (run false [.query (.func (lit "tonic") (lit "C")), .callerAppend 0 0 (lit "Z"), .query (.func (lit "tonic") (lit "C"))]).2[2]? ≠
      some (pureAnswer (.func (lit "tonic") (lit "C"))) := by decide +kernel

/-- an instance whose `__init__` rebound the field: operations on OTHER instances never change what it reads, and no
    operation on such instances touches the class default -/
theorem instances_independent (o : Obj) (i : Nat) (x : Str) :
    (∀ j v, o.inst[j]? = some (some v) → i ≠ j → (o.append i x).read j = o.read j) ∧
    (∀ w, o.inst[i]? = some (some w) → (o.append i x).classCell = o.classCell) := by
  refine ⟨fun j v hj hij => ?_, fun w hw => by simp [Obj.append, hw]⟩
  unfold Obj.append
  split
  · simp only [Obj.read]; rw [List.getElem?_set_ne hij]
  · simp only [Obj.read, hj]
  · rfl

def Owned (o : Obj) : Prop := none ∉ o.inst

theorem owned_iff (o : Obj) : Owned o ↔ ∀ j, j < o.inst.length → ∃ v, o.inst[j]? = some (some v) := by
  unfold Owned
  constructor
  · intro h j hj
    cases e : o.inst[j] with
    | none => exact absurd (e ▸ List.getElem_mem hj) h
    | some v => exact ⟨v, by rw [List.getElem?_eq_getElem hj, e]⟩
  · intro h hm
    obtain ⟨j, hj, e⟩ := List.getElem_of_mem hm
    obtain ⟨v, hv⟩ := h j hj
    rw [List.getElem?_eq_getElem hj, e] at hv
    cases hv

theorem owned_step (o : Obj) (h : Owned o) (op : InstOp) :
    Owned (instStep true o op) ∧ (instStep true o op).classCell = o.classCell := by
  cases op with
  | create => exact ⟨by simpa [Owned, instStep, Obj.create] using h, rfl⟩
  | append i x =>
    simp only [instStep, Obj.append]
    split
    · refine ⟨fun hm => ?_, rfl⟩
      rcases List.mem_or_eq_of_mem_set hm with hm | hm
      · exact h hm
      · cases hm
    · exact absurd (List.mem_of_getElem? ‹_›) h
    · exact ⟨h, rfl⟩

theorem owned_foldl (ops : List InstOp) (o : Obj) (h : Owned o) :
    Owned (ops.foldl (instStep true) o) ∧ (ops.foldl (instStep true) o).classCell = o.classCell := by
  induction ops generalizing o with
  | nil => exact ⟨h, rfl⟩
  | cons op rest ih =>
    obtain ⟨h1, h2⟩ := owned_step o h op
    obtain ⟨h3, h4⟩ := ih _ h1
    exact ⟨h3, h4.trans h2⟩

/-- every instance created with a rebinding `__init__` owns its object, after any history -/
theorem created_are_owned (ops : List InstOp) (o : Obj) (h : ∀ j, j < o.inst.length → ∃ v, o.inst[j]? = some (some v)) :
    ∀ j, j < (ops.foldl (instStep true) o).inst.length → ∃ v, (ops.foldl (instStep true) o).inst[j]? = some (some v) :=
  (owned_iff _).1 (owned_foldl ops o ((owned_iff o).2 h)).1

/-- the class default object is never changed by instances with a rebinding `__init__`, after any history -/
theorem class_default_untouched (ops : List InstOp) (o : Obj) (h : ∀ j, j < o.inst.length → ∃ v, o.inst[j]? = some (some v)) :
    (ops.foldl (instStep true) o).classCell = o.classCell :=
  (owned_foldl ops o ((owned_iff o).2 h)).2

/-- without the rebinding (the Suite class before its repair) two instances share the class-level list -/
theorem shared_counterexample :
    (([InstOp.create, .create, .append 0 (lit "x")].foldl (instStep false) ⟨[], []⟩).read 1) = [lit "x"] := by decide

end Mingus.Props.C15
