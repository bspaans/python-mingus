import Mingus.Props.C18
/-
  C18 — the tempo in force under parallel playback.

  `play_Bars` takes over the tempo of every entry it starts, in bar order, so after step `i` the tempo is that of the last bar
  whose `i`-th entry carries one (`stepBpm`), and it stays in force until the next change (`bpmBefore`).
-/
namespace Mingus.Props.C18
open Mingus Mingus.Seq Mingus.Containers

def entryAt (bars : List SBar) (n x : Nat) : SEntry := ((bars.getD n default).entries).getD x default

def stepBpm (bars : List SBar) (bpm : Int) (i : Nat) : Int :=
  (List.range bars.length).foldl (fun b n => ((entryAt bars n i).bpm).getD b) bpm

def bpmBefore (bars : List SBar) (bpm : Int) : Nat → Int
  | 0 => bpm
  | i + 1 => stepBpm bars (bpmBefore bars bpm i) i

theorem foldl_getD {α} (P : Int → Prop) (f : α → Option Int) (l : List α) (h : ∀ a ∈ l, ∀ v, f a = some v → P v) :
    ∀ b, P b → P (l.foldl (fun b a => (f a).getD b) b) := fun _ hb =>
  List.foldlRecOn l _ hb fun b hb a ha => by
    cases hf : f a with
    | none => exact hb
    | some v => exact h a ha v hf

theorem bpmBefore_plain (bars : List SBar) (bpm : Int) (h : ∀ n i, (entryAt bars n i).bpm = none) : ∀ i, bpmBefore bars bpm i = bpm := by
  intro i
  induction i with
  | zero => rfl
  | succ i ih => exact foldl_getD (· = bpm) _ _ (fun n _ v hv => by simp [h n i] at hv) _ ih

/-- discharges `hnz` of `playBars_equal_rhythm_tempo` -/
theorem bpmBefore_ne_zero (bars : List SBar) (bpm : Int) (hb : bpm ≠ 0) (h : ∀ n i, (entryAt bars n i).bpm ≠ some 0) :
    ∀ i, bpmBefore bars bpm i ≠ 0 := by
  intro i
  induction i with
  | zero => exact hb
  | succ i ih => exact foldl_getD (· ≠ 0) _ _ (fun n _ v hv hz => h n i (hz ▸ hv)) _ ih

end Mingus.Props.C18
