import Mingus.Props.C16Track
/-
  C16 — MIDI output is well-formed SMF that denotes exactly the music written.

  Everything here is about the pure specification (`specTrack`, `specBar`, `specLone`), which C16Track proves is what the
  pending-delta machine (the model of MidiTrack) writes, for every composition whose tracks satisfy `okTrack`, every
  repeat count and every tempo ≥ 4, and C16Smf proves is read back event for event by the independent reader.
-/
namespace Mingus.Props.C16
open Mingus Mingus.Midi Mingus.Containers

/-- the per-event half of `WfTrack` -/
def Good (e : TEv) : Prop := WfEv e.ev ∧ ∀ d, e.ev ≠ .metaE 47 d

theorem good_meta (d t : Nat) (data : Bytes) (h : t < 128) (h47 : t ≠ 47) : Good ⟨d, .metaE t data⟩ :=
  ⟨h, fun _ he => h47 (Ev.metaE.inj he).1⟩

theorem good_tempo (bpm : Int) : Good (tempoEv bpm) := good_meta _ _ _ (by omega) (by omega)

theorem specEntry_evs (s : S) (e : MEntry) : (specEntry s e).1.map (·.ev) =
    (match e.notes with
      | n :: _ => if s.ci then [bankEv n, progEv n s.instr] else []
      | [] => []) ++ e.notes.map onEv ++ e.notes.map offEv := by
  unfold specEntry
  cases e.notes with
  | nil => rfl
  | cons n rest => cases s.ci <;> simp [Function.comp_def]

theorem good_specEntry (s : S) (e : MEntry) (hi : okInstr s) (he : okEntry e) : ∀ x ∈ (specEntry s e).1, Good x := by
  suffices h : ∀ ev ∈ (specEntry s e).1.map (·.ev), WfEv ev ∧ ∀ d, ev ≠ .metaE 47 d from
    fun x hx => h _ (List.mem_map_of_mem hx)
  have hok (m : Note) (hm : m ∈ e.notes) :
      m.channel.toNat < 16 ∧ (m.pitch + 12).toNat < 128 ∧ m.velocity.toNat < 128 := by
    obtain ⟨_, _, _, _, _, _, _⟩ := he.2.1 m hm; omega
  rw [specEntry_evs]
  simp only [List.mem_append, List.mem_map]
  rintro ev ((h | ⟨m, hm, rfl⟩) | ⟨m, hm, rfl⟩)
  · cases hn : e.notes with
    | nil => simp [hn] at h
    | cons n rest =>
      have hn' := hok n (by simp [hn])
      cases hci : s.ci with
      | false => simp [hn, hci] at h
      | true =>
        have := hi hci
        simp only [hn, hci, if_true, List.mem_cons, List.not_mem_nil, or_false] at h
        rcases h with rfl | rfl
        · exact ⟨by simp only [bankEv, WfEv]; omega, nofun⟩
        · exact ⟨⟨.inl rfl, by omega⟩, nofun⟩
  · exact ⟨by have := hok m hm; simp only [onEv, WfEv]; omega, nofun⟩
  · exact ⟨by have := hok m hm; simp only [offEv, WfEv]; omega, nofun⟩

theorem good_specBar (s : S) (b : MBar) (hi : okInstr s) (hb : okBar b) :
    (∀ x ∈ (specBar s b).1, Good x) ∧ okInstr (specBar s b).2 := by
  obtain ⟨g, i⟩ := thread_forall (f := specEntry) (xs := b.entries)
    (fun e he s hs => ⟨good_specEntry s e hs (hb.2.2.2.2 e he), okInstr_specEntry s e hs⟩) { s with delay := 0 } hi
  obtain ⟨d, hd⟩ := keyEv_meta b.key
  rw [← specEntries_eq] at g i
  refine ⟨?_, i⟩
  simp only [specBar, List.mem_append, List.mem_cons, List.not_mem_nil, or_false]
  rintro x ((rfl | rfl) | hx)
  · exact good_meta _ _ _ (by omega) (by omega)
  · rw [hd]; exact good_meta _ _ _ (by omega) (by omega)
  · exact g x hx

theorem good_specTrack (s : S) (tr : MTrack) (hi : okInstr s) (ht : okTrack tr) :
    (∀ x ∈ (specTrack s tr).1, Good x) ∧ okInstr (specTrack s tr).2 := by
  obtain ⟨g, i⟩ := thread_forall (f := specBar) (xs := tr.bars)
    (fun b hb s hs => good_specBar s b hs (ht.1 b hb)) _ (okInstr_withInstr hi ht.2)
  rw [← specBars_eq] at g i
  refine ⟨?_, i⟩
  simp only [specTrack, List.mem_cons]
  rintro x (rfl | hx)
  · exact good_meta _ _ _ (by omega) (by omega)
  · exact g x hx

theorem good_passes (f : S → List TEv × S)
    (step : ∀ s, okInstr s → (∀ x ∈ (f s).1, Good x) ∧ okInstr (f s).2) (k : Nat) (s : S) (hs : okInstr s) :
    ∀ x ∈ (specPasses f k s).1, Good x :=
  specPasses_eq f k s ▸ (thread_forall (fun _ _ => step) s hs).1

/-- **C16, framing and well-formedness.**  For every composition whose tracks satisfy `okTrack` (in-range notes, meters
    and keys the writer accepts, no tempo-carrying container), every repeat count and every tempo ≥ 4 (and chunks short
    enough for a 32-bit length, fewer than 2^16 tracks), `write_Composition` succeeds and the independent reader accepts
    the bytes: format 1, 72 ticks per quarter, as many tracks as chunks, every chunk length exact and closed by
    end-of-track, every delta a valid variable-length quantity, every event well formed — and the events it reads are
    exactly the specification's events for each track. -/
theorem composition_parses (trs : List MTrack) (bpm rep : Int) (ht : ∀ tr ∈ trs, okTrack tr) (hb : okBpm bpm)
    (hsize : ∀ tr ∈ trs, (serialise (tempoEv bpm :: (specPasses (fun s => specTrack s tr) (times rep) s0).1)).length + 4 < 2 ^ 32)
    (hn : trs.length < 2 ^ 16) :
    ∃ bytes, writeComposition trs bpm rep = .ok bytes ∧
      parseSmf bytes = some ⟨1, trs.length, 72,
        trs.map (fun tr => tempoEv bpm :: (specPasses (fun s => specTrack s tr) (times rep) s0).1)⟩ := by
  obtain ⟨ts, h1, h2⟩ := writeComposition_spec trs bpm rep ht hb
  have hlen : ts.length = trs.length := by simpa using congrArg List.length h2
  have hwf : ∀ t ∈ ts, WfTrack t := by
    intro t htm
    obtain ⟨tr, htr, he⟩ := List.mem_map.1 (h2 ▸ List.mem_map_of_mem (f := MT.evs) htm)
    exact ⟨he ▸ List.forall_mem_cons.2 ⟨good_tempo bpm,
      good_passes _ (fun s hs => good_specTrack s tr hs (ht tr htr)) _ s0 okInstr_s0⟩, he ▸ hsize tr htr⟩
  exact ⟨_, h1, by rw [file_parses ts hwf (hlen ▸ hn), h2, hlen]⟩

def absT (start : Nat) : List TEv → List (Nat × Ev)
  | [] => []
  | e :: es => (start + e.delta, e.ev) :: absT (start + e.delta) es

def total (l : List TEv) : Nat := (l.map (·.delta)).sum

def isNote : Ev → Bool
  | .chan2 k _ _ _ => k = 8 || k = 9
  | _ => false

def notesAt (start : Nat) (l : List TEv) : List (Nat × Ev) := (absT start l).filter (fun p => isNote p.2)

theorem total_nil : total [] = 0 := rfl
theorem total_cons (e : TEv) (es : List TEv) : total (e :: es) = e.delta + total es := by simp [total]
theorem total_append (a b : List TEv) : total (a ++ b) = total a + total b := by simp [total]

theorem absT_append (a b : List TEv) : ∀ start, absT start (a ++ b) = absT start a ++ absT (start + total a) b := by
  induction a with
  | nil => intro start; simp [absT, total_nil]
  | cons e es ih =>
    intro start
    simp only [List.cons_append, absT, ih, total_cons, Nat.add_assoc]

theorem notesAt_nil (T : Nat) : notesAt T [] = [] := rfl
theorem notesAt_cons (T : Nat) (e : TEv) (es : List TEv) :
    notesAt T (e :: es) = (if isNote e.ev then [(T + e.delta, e.ev)] else []) ++ notesAt (T + e.delta) es := by
  by_cases h : isNote e.ev <;> simp [notesAt, absT, h]
theorem notesAt_append (a b : List TEv) (start : Nat) :
    notesAt start (a ++ b) = notesAt start a ++ notesAt (start + total a) b := by
  simp [notesAt, absT_append]

theorem notesAt_zero (f : Note → Ev) (hf : ∀ m, isNote (f m) = true) (ns : List Note) (T : Nat) :
    notesAt T (ns.map fun m => ⟨0, f m⟩) = ns.map fun m => (T, f m) := by
  induction ns with
  | nil => rfl
  | cons n ns ih => simp [notesAt_cons, hf, ih]

theorem total_zero (f : Note → Ev) (ns : List Note) : total (ns.map fun m => (⟨0, f m⟩ : TEv)) = 0 := by
  induction ns with
  | nil => rfl
  | cons n ns ih => rw [List.map_cons, total_cons, ih]

def layEntries (now : Nat) : List MEntry → List (Nat × Ev) × Nat
  | [] => ([], now)
  | e :: es =>
    (e.notes.map (fun m => (now, onEv m)) ++ e.notes.map (fun m => (now + tickOf e.value, offEv m)) ++
      (layEntries (now + tickOf e.value) es).1, (layEntries (now + tickOf e.value) es).2)

def layEntry (now : Nat) (e : MEntry) : List (Nat × Ev) × Nat :=
  (e.notes.map (fun m => (now, onEv m)) ++ e.notes.map (fun m => (now + tickOf e.value, offEv m)), now + tickOf e.value)

theorem layEntries_eq : layEntries = thread layEntry := by
  funext now es; induction es generalizing now <;> simp [layEntries, layEntry, *]

/-- the clock of `f` is the ticks written plus the rest still pending -/
def Denotes (f : S → List TEv × S) (g : Nat → List (Nat × Ev) × Nat) : Prop :=
  ∀ s T, notesAt T (f s).1 = (g (T + s.delay)).1 ∧ T + total (f s).1 + (f s).2.delay = (g (T + s.delay)).2

theorem Denotes.thread {α : Type} {f : S → α → List TEv × S} {g : Nat → α → List (Nat × Ev) × Nat} {xs : List α}
    (h : ∀ x ∈ xs, Denotes (f · x) (g · x)) : Denotes (thread f · xs) (Mingus.thread g · xs) := by
  induction xs with
  | nil => intro s T; simp [notesAt_nil, total_nil]
  | cons x xs ih =>
    intro s T
    obtain ⟨hx, ht⟩ := List.forall_mem_cons.1 h
    obtain ⟨h1, h2⟩ : notesAt T (f s x).1 = (g (T + s.delay) x).1 ∧
      T + total (f s x).1 + (f s x).2.delay = (g (T + s.delay) x).2 := hx s T
    obtain ⟨h3, h4⟩ := ih ht (f s x).2 (T + total (f s x).1)
    simp only [h2] at h3 h4
    simp only [thread_cons, notesAt_append, total_append]
    exact ⟨by rw [h1, h3], by rw [← h4]; omega⟩

theorem entry_denotes (e : MEntry) : Denotes (specEntry · e) (layEntry · e) := by
  intro s T
  unfold specEntry layEntry
  cases e.notes with
  | nil => simp [notesAt_nil, total_nil]; omega
  | cons n rest =>
    cases hci : s.ci <;>
      simp [hci, notesAt_append, notesAt_cons, notesAt_zero, total_append, total_cons, total_zero, isNote, onEv, offEv,
        bankEv, progEv, Nat.add_assoc]

def layBars (now : Nat) : List MBar → List (Nat × Ev) × Nat
  | [] => ([], now)
  | b :: bs => ((layEntries now b.entries).1 ++ (layBars (layEntries now b.entries).2 bs).1,
                (layBars (layEntries now b.entries).2 bs).2)

theorem layBars_eq : layBars = thread fun now b => layEntries now b.entries := by
  funext now bs; induction bs generalizing now <;> simp [layBars, *]

theorem bar_denotes (b : MBar) : Denotes (specBar · b) (layEntries · b.entries) := by
  intro s T
  obtain ⟨d, hd⟩ := keyEv_meta b.key
  have := Denotes.thread (fun e _ => entry_denotes e) { s with delay := 0 } (T + s.delay) (xs := b.entries)
  rw [← specEntries_eq, ← layEntries_eq] at this
  simpa [specBar, notesAt_cons, meterEv, hd, isNote, total_cons, Nat.add_assoc] using this

theorem track_denotes (tr : MTrack) : Denotes (specTrack · tr) (layBars · tr.bars) := by
  intro s T
  have hd : (withInstr s tr).delay = s.delay := by unfold withInstr; cases tr.instr <;> rfl
  have := Denotes.thread (fun b _ => bar_denotes b) (withInstr s tr) T (xs := tr.bars)
  rw [← specBars_eq, ← layBars_eq, hd] at this
  simpa [specTrack, notesAt_cons, isNote, total_cons] using this

def layPasses (bars : List MBar) : Nat → Nat → List (Nat × Ev) × Nat
  | 0, now => ([], now)
  | k + 1, now => ((layBars now bars).1 ++ (layPasses bars k (layBars now bars).2).1, (layPasses bars k (layBars now bars).2).2)

theorem layPasses_eq (bars : List MBar) (k now : Nat) :
    layPasses bars k now = thread (fun now _ => layBars now bars) now (List.replicate k ()) := by
  induction k generalizing now <;> simp [layPasses, List.replicate_succ, *]

theorem passes_denote (tr : MTrack) (k : Nat) : Denotes (specPasses (specTrack · tr) k) (layPasses tr.bars k) := by
  have := Denotes.thread (xs := List.replicate k ()) fun _ _ => track_denotes tr
  simpa only [← specPasses_eq, ← layPasses_eq] using this

/-- **C16, denotation.**  In the track that `write_Track` / `write_Composition` writes (tempo event, then
    `repeat + 1` passes), the note-on and note-off events, with their absolute ticks, are exactly the music laid end to
    end from tick 0: one note-on per written note at the tick where its entry starts, one note-off with the same
    channel, pitch + 12 and velocity at the entry's end, rests advancing time only — for every track, every repeat
    count, with or without a MIDI instrument, wherever the rests are. -/
theorem track_file_denotes (tr : MTrack) (bpm rep : Int) (ht : okTrack tr) :
    notesAt 0 (tempoEv bpm :: (specPasses (fun s => specTrack s tr) (times rep) s0).1) =
      (layPasses tr.bars (times rep) 0).1 := by
  simpa [notesAt_cons, s0, tempoEv, isNote] using (passes_denote tr (times rep) s0 0).1

/-- entries so short that they last one tick or none: `round(288/value)` in doubles with Python's half-to-even rule
    (288/576 is exactly one half and rounds to 0); such an entry's note-on and note-off fall on the same tick -/
example : tickOf 400 = 1 ∧ tickOf 575 = 1 ∧ tickOf 576 = 0 ∧ tickOf 577 = 0 ∧ tickOf 1024 = 0 ∧ tickOf 192 = 2 := by
  decide +kernel

end Mingus.Props.C16
