import Mingus.Model.Containers
import Mingus.Lemmas.Intervals
import Mingus.Lemmas.Except
import Mingus.Props.C03
import Mingus.Props.C10
/-
  C11 — transposition is semitone-exact and reversible at every container level.
  Note level: `transpose_exact` - C03's closed form for the name (`fromShorthand_rep`) puts the new name's unreduced
  offset within an octave of the old one's, on the side the interval asks for, so the octave correction makes the pitch
  number move by exactly the size: any octave, channel and velocity, canonical names with up to four accidentals × the
  31 of the 35 shorthands of size 0..11 × both directions; `transpose_table` is its instance at octave 0.  Up-then-down:
  the names come back by C03.up_down, and the octave follows (`down_of_up`).  Octave-translation invariance of
  `Note.transpose` (`transpose_shift`) holds for every note.  Container levels: structural theorems (any size).
-/
namespace Mingus.Props.C11
open Mingus Mingus.Notes Mingus.Intervals Mingus.Containers

def shiftOct (n : Note) (o : Int) : Note := { n with octave := n.octave + o }

theorem toInt_shift (n : Note) (o : Int) : (shiftOct n o).toInt = n.toInt.map (· + 12 * o) := by
  unfold Note.toInt shiftOct
  cases n.name with
  | nil => rfl
  | cons l t =>
    simp only [bind, Except.bind]
    cases noteToInt [l] with
    | error e => rfl
    | ok b => simp only [pure_ok, Except.map]; congr 1; omega

theorem cmp_shift (a b : Note) (o : Int) :
    Note.lt (shiftOct a o) (shiftOct b o) = Note.lt a b ∧ Note.gt (shiftOct a o) (shiftOct b o) = Note.gt a b := by
  simp only [Note.gt, Note.lt, Note.eq, toInt_shift]
  cases a.toInt <;> cases b.toInt <;> simp [Except.map]

theorem transpose_shift (n : Note) (o : Int) (iv : Str) (up : Bool) :
    (shiftOct n o).transpose iv up = (n.transpose iv up).map (fun r => shiftOct r o) := by
  unfold Note.transpose
  simp only [shiftOct, bind, Except.bind]
  cases Intervals.fromShorthand n.name iv up with
  | error e => rfl
  | ok v =>
    cases v with
    | str nm =>
      simp only
      obtain ⟨h1, h2⟩ := cmp_shift { n with name := nm } n o
      simp only [shiftOct] at h1 h2
      cases up
      · simp only [Bool.false_eq_true, if_false]
        rw [h2]
        cases Note.gt { n with name := nm } n with
        | error e => rfl
        | ok g =>
          cases g
          · simp [Except.map]
          · simp only [pure_ok, Except.map, if_true]; congr 2; omega
      · simp only [if_true]
        rw [h1]
        cases Note.lt { n with name := nm } n with
        | error e => rfl
        | ok g =>
          cases g
          · simp [Except.map]
          · simp only [pure_ok, Except.map, if_true]; congr 2; omega
    | _ => rfl

def accRange : List Int := [-4, -3, -2, -1, 0, 1, 2, 3, 4]
def sizeOf (sh : Str) : Int :=
  C03.majorSize.getD (((sh.getLastD '1').toNat - 49)) 0 + accVal sh.dropLast
def degOf (sh : Str) : Nat := (sh.getLastD '1').toNat - 49
def letterDown (l : Char) (k : Nat) : Char := letterUp l ((7 - k % 7) % 7)

/-- up and down each move the pitch number by exactly the interval's size, land on the required letter and keep the
    dynamics (asked only of shorthands of size 0..11) -/
def transposeOK (l : Char) (v : Int) (sh : Str) : Bool :=
  let n : Note := ⟨rep l v, 0, 1, 64⟩
  let size := sizeOf sh
  if size < 0 ∨ size > 11 then true else
  (match n.transpose sh true with
   | .ok r => r.pitch == n.pitch + size && r.name.head? == some (letterUp l (degOf sh)) && r.channel == 1 && r.velocity == 64
   | _ => false) &&
  (match n.transpose sh false with
   | .ok r => r.pitch == n.pitch - size && r.name.head? == some (letterDown l (degOf sh)) && r.channel == 1 && r.velocity == 64
   | _ => false)

/-- up followed by down restores name and octave (asked only of shorthands of size 0..11) -/
def upDownOK (l : Char) (v : Int) (sh : Str) : Bool :=
  let n : Note := ⟨rep l v, 0, 1, 64⟩
  let size := sizeOf sh
  if size < 0 ∨ size > 11 then true else
  match n.transpose sh true with
  | .ok r => (match r.transpose sh false with
    | .ok back => back.name == n.name && back.octave == n.octave
    | _ => false)
  | _ => false

/-- `from_shorthand` answers `False`, not a name, on a name that is not valid -/
theorem valid_of_fromShorthand {n sh r : Str} {up : Bool} (h : Intervals.fromShorthand n sh up = .ok (.str r)) :
    valid n = true := by
  unfold Intervals.fromShorthand at h
  split at h
  · cases h
  · split at h
    · cases h
    · rename_i hv; simpa using hv

theorem transpose_valid {n : Note} {sh u : Str} {up : Bool} (hv : valid u = true)
    (hu : Intervals.fromShorthand n.name sh up = .ok (.str u)) :
    n.transpose sh up = .ok { n with name := u, octave :=
      if up then (if ({ n with name := u } : Note).pitch < n.pitch then n.octave + 1 else n.octave)
      else (if ({ n with name := u } : Note).pitch > n.pitch then n.octave - 1 else n.octave) } := by
  have c := C10.comparisons { n with name := u } n _ _ (Note.toInt_valid hv) (Note.toInt_valid (valid_of_fromShorthand hu))
  cases up
  · by_cases h : ({ n with name := u } : Note).pitch > n.pitch <;>
      simp [Note.transpose, hu, c.2.2.2.2.2, h]
  · by_cases h : ({ n with name := u } : Note).pitch < n.pitch <;>
      simp [Note.transpose, hu, c.1, h]

theorem pitch_rep (l : Char) (v o c vel : Int) : (Note.mk (rep l v) o c vel).pitch = o * 12 + (natural? l).getD 0 + v := by
  simp [Note.pitch, rep_eq, accVal_accRun]

/-- between two letters the natural distance lies from 13 below to 1 above the major (or complementary) size -/
theorem letter_table : ∀ l ∈ Keys.baseScale, ∀ d ∈ C03.digits, ∀ row, C03.digitRow d = some row → ∀ up : Bool,
    (if up then row.2.1 else row.2.2.2) - 13 ≤
        (natural? (letterUp l (if up then row.1 else row.2.2.1))).getD 0 - (natural? l).getD 0 ∧
      (natural? (letterUp l (if up then row.1 else row.2.2.1))).getD 0 - (natural? l).getD 0 ≤
        (if up then row.2.1 else row.2.2.2) + 1 := by decide

/-- the rows of `C03.digitRow` in the terms of `sizeOf`, `degOf` and `letterDown` -/
theorem digit_facts : ∀ d ∈ C03.digits, ∀ row, C03.digitRow d = some row →
    row.1 = d.toNat - 49 ∧ (7 - row.1 % 7) % 7 = row.2.2.1 ∧ row.2.1 = C03.majorSize.getD (d.toNat - 49) 0 ∧
      row.2.2.2 = (12 - row.2.1) % 12 ∧ 0 ≤ row.2.1 ∧ row.2.1 ≤ 11 ∧
      (if d = '1' then row = (0, 0, 0, 0) else 1 ≤ row.2.1) := by decide

/-- one direction of `transposeOK`, for any octave, channel and velocity -/
theorem transpose_exact (l : Char) (hl : l ∈ Keys.baseScale) (v : Int) (hv : v ∈ accRange) (sh : Str)
    (hsh : sh ∈ C03.shorthands) (hsize : 0 ≤ sizeOf sh ∧ sizeOf sh ≤ 11) (n : Note) (hn : n.name = rep l v) (up : Bool) :
    ∃ r, n.transpose sh up = .ok r ∧ r.pitch = n.pitch + (if up then sizeOf sh else - sizeOf sh) ∧
      r.name.head? = some (if up then letterUp l (degOf sh) else letterDown l (degOf sh)) ∧
      r.channel = n.channel ∧ r.velocity = n.velocity := by
  simp only [C03.shorthands, List.mem_flatMap, List.mem_map] at hsh
  obtain ⟨a, ha, d, hd, rfl⟩ := hsh
  have hlet := isLetter_of_mem hl
  have haa : a.all isAcc = true := (by decide : ∀ a ∈ C03.accPrefixes, a.all isAcc = true) a ha
  obtain ⟨row, w, hrow, hu, hw⟩ := C03.fromShorthand_rep hlet v a haa hd up
  obtain ⟨hdeg, hdown, hmaj, hcomp, hm0, hm11, hone⟩ := digit_facts d hd row hrow
  have hL := letterUp_isLetter l (if up then row.1 else row.2.2.1)
  -- the new name's offset lies less than an octave from the old one's, on the side the interval asks for
  have hD : (natural? (letterUp l (if up then row.1 else row.2.2.1))).getD 0 + w - (natural? l).getD 0 - v =
        (if up then row.2.1 else row.2.2.2) ∨
      (natural? (letterUp l (if up then row.1 else row.2.2.1))).getD 0 + w - (natural? l).getD 0 - v =
        (if up then row.2.1 else row.2.2.2) - 12 ∧ 1 ≤ row.2.1 := by
    have hv4 : -4 ≤ v ∧ v ≤ 4 := by simp [accRange] at hv; omega
    simp only [pc_rep] at hw
    by_cases h1 : d = '1'
    · rw [if_pos h1] at hone
      simp only [hone, letterUp_zero hlet, ite_self] at hw ⊢
      omega
    · -- congruent to the size modulo 12 by C03's closed form, and within 23 below .. 11 above it by the bounds
      rw [if_neg h1] at hone
      have hlt := letter_table l hl d hd row hrow up
      omega
  rw [← hn] at hu
  refine ⟨_, transpose_valid (valid_rep hL _) hu, ?_, ?_, rfl, rfl⟩
  · obtain ⟨nm, o, c, vel⟩ := n
    subst hn
    simp only [pitch_rep, sizeOf, List.getLastD_concat, List.dropLast_concat, ← hmaj] at hsize ⊢
    cases up <;> simp only [if_true, if_false, Bool.false_eq_true] at hD ⊢ <;> split <;> omega
  · cases up <;> simp [degOf, letterDown, rep_eq, ← hdeg, hdown]

theorem transpose_table : ∀ l ∈ Keys.baseScale, ∀ v ∈ accRange, ∀ sh ∈ C03.shorthands, transposeOK l v sh = true := by
  intro l hl v hv sh hsh
  simp only [transposeOK]
  split
  · rfl
  · obtain ⟨r, hr, hp, hh, hc, hvel⟩ := transpose_exact l hl v hv sh hsh (by omega) ⟨rep l v, 0, 1, 64⟩ rfl true
    obtain ⟨r', hr', hp', hh', hc', hvel'⟩ := transpose_exact l hl v hv sh hsh (by omega) ⟨rep l v, 0, 1, 64⟩ rfl false
    simp [hr, hr', hp, hp', hh, hh', hc, hc', hvel, hvel', Int.sub_eq_add_neg]

theorem transpose_spec (l : Char) (hl : l ∈ Keys.baseScale) (v : Int) (hv : v ∈ accRange) (sh : Str) (hsh : sh ∈ C03.shorthands)
    (hsize : 0 ≤ sizeOf sh ∧ sizeOf sh ≤ 11) (o ch vel : Int) :
    (∃ r, (Note.mk (rep l v) o 1 64).transpose sh true = .ok r ∧ r.pitch = (Note.mk (rep l v) o 1 64).pitch + sizeOf sh ∧
      r.name.head? = some (letterUp l (degOf sh))) ∧
    (∃ r, (Note.mk (rep l v) o 1 64).transpose sh false = .ok r ∧ r.pitch = (Note.mk (rep l v) o 1 64).pitch - sizeOf sh ∧
      r.name.head? = some (letterDown l (degOf sh))) := by
  have h := fun up => transpose_exact l hl v hv sh hsh hsize ⟨rep l v, o, 1, 64⟩ rfl up
  obtain ⟨r, hr, hp, hh, -⟩ := h true
  obtain ⟨r', hr', hp', hh', -⟩ := h false
  exact ⟨⟨r, hr, by simpa using hp, by simpa using hh⟩, ⟨r', hr', by simpa [Int.sub_eq_add_neg] using hp', by simpa using hh'⟩⟩

/-- If a shorthand taken up and then down restores the NAME, it restores the note: both octave corrections compare the
    same two numbers, so the one going down undoes the one going up. -/
theorem down_of_up {n : Note} {u sh : Str} (hup : Intervals.fromShorthand n.name sh true = .ok (.str u))
    (hdown : Intervals.fromShorthand u sh false = .ok (.str n.name)) :
    ∃ r, n.transpose sh true = .ok r ∧ r.transpose sh false = .ok n := by
  have hn := valid_of_fromShorthand hup
  have hu := valid_of_fromShorthand hdown
  refine ⟨_, transpose_valid hu hup, ?_⟩
  rw [transpose_valid (u := n.name) hn hdown]
  have h1 := Note.pitch_octave (n := { n with name := u }) hu (n.octave + 1)
  have h2 := Note.pitch_octave hn (n.octave + 1)
  obtain ⟨nm, o, c, v⟩ := n
  simp only [if_true, Bool.false_eq_true, if_false] at h1 h2 ⊢
  by_cases hlt : (⟨u, o, c, v⟩ : Note).pitch < (⟨nm, o, c, v⟩ : Note).pitch <;> simp only [hlt, if_true, if_false]
  rw [if_pos (by omega), Int.add_sub_cancel]

theorem updown_table : ∀ l ∈ Keys.baseScale, ∀ v ∈ [(-3 : Int), -2, -1, 0, 1, 2, 3], ∀ sh ∈ C03.shorthands,
    upDownOK l v sh = true := by
  intro l hl v hv sh hsh
  simp only [C03.shorthands, List.mem_flatMap, List.mem_map] at hsh
  obtain ⟨a, ha, d, hd, rfl⟩ := hsh
  obtain ⟨haa, ha2⟩ := (by decide : ∀ a ∈ C03.accPrefixes, a.all isAcc = true ∧ (accVal a).natAbs ≤ 2) a ha
  obtain ⟨u, hup, hdown⟩ := C03.up_down hl v a haa hd (by simp at hv; omega)
  obtain ⟨r, hr, hback⟩ := down_of_up (n := ⟨rep l v, 0, 1, 64⟩) hup hdown
  simp only [upDownOK]
  split
  · rfl
  · simp [hr, hback]

/-- beyond three accidentals the identity stops (the > 6 re-spelling of the constructors), cf. C03.up_down_limit -/
theorem updown_limit : upDownOK 'C' 4 (lit "##5") = false := by decide +kernel

theorem augment_diminish_id (l : Char) (hl : isLetter l = true) (v : Int) : diminish (augment (rep l v)) = rep l v := by
  rw [augment_rep l (letter_ne_b hl), diminish_rep l (letter_ne_sharp hl)]; congr 1; omega
def C11_augdim_full : Prop := ∀ n : Str, valid n = true → diminish (augment n) = n
/-- the recorded finding: a mixed name ending in '#b' loses both accidentals -/
theorem augment_diminish_counterexample : ¬ C11_augdim_full := by
  intro h; have := h (lit "C#b") (by decide); revert this; decide

-- Container levels: the operation is applied to every note; rests, values and beats are untouched.
/-- NoteContainer.transpose: exactly the note-level operation on every note, in place -/
theorem nc_lifts (nc r : NC) (iv : Str) (up : Bool) (h : NC.transpose nc iv up = .ok r) :
    r.length = nc.length ∧ ∀ i (hi : i < nc.length), ∃ hr : i < r.length, nc[i].transpose iv up = .ok r[i] :=
  ⟨(mapM_ok h).1, fun i hi => ⟨(mapM_ok h).1 ▸ hi, (mapM_ok h).2 i hi _⟩⟩

theorem bar_lifts (b b' : Bar) (f : NC → Except Err NC) (h : Bar.mapContent b f = .ok b') :
    b'.current = b.current ∧ b'.length = b.length ∧ b'.meter = b.meter ∧ b'.key = b.key ∧
    b'.entries.length = b.entries.length ∧
    ∀ i (hi : i < b.entries.length), ∃ hr : i < b'.entries.length,
      b'.entries[i].start = b.entries[i].start ∧ b'.entries[i].value = b.entries[i].value ∧
      (match b.entries[i].content with
       | none => b'.entries[i].content = none
       | some nc => ∃ nc', f nc = .ok nc' ∧ b'.entries[i].content = some nc') := by
  simp only [Bar.mapContent, bind_eq_ok, pure_eq_ok] at h
  obtain ⟨es, hes, rfl⟩ := h
  obtain ⟨hl, hget⟩ := mapM_ok hes
  refine ⟨rfl, rfl, rfl, rfl, hl, fun i hi => ⟨hl ▸ hi, ?_⟩⟩
  have e := hget i hi (hl ▸ hi)
  cases hc : b.entries[i].content with
  | none => rw [hc, pure_eq_ok] at e; simp [← e, hc]
  | some nc =>
    simp only [hc, bind_eq_ok, pure_eq_ok] at e
    obtain ⟨nc', hnc', e⟩ := e
    rw [← e]; exact ⟨rfl, rfl, nc', hnc', rfl⟩

theorem track_lifts (t t' : Track) (f : Bar → Except Err Bar) (h : Track.mapBars t f = .ok t') :
    t'.bars.length = t.bars.length ∧ t'.instrument = t.instrument ∧
    ∀ i (hi : i < t.bars.length), ∃ hr : i < t'.bars.length, f t.bars[i] = .ok t'.bars[i] := by
  simp only [Track.mapBars, bind_eq_ok, pure_eq_ok] at h
  obtain ⟨bs, hbs, rfl⟩ := h
  exact ⟨(mapM_ok hbs).1, rfl, fun i hi => ⟨(mapM_ok hbs).1 ▸ hi, (mapM_ok hbs).2 i hi _⟩⟩

example : (Note.mk (lit "B#") 4 1 64).transpose (lit "2") true = .ok ⟨lit "C##", 5, 1, 64⟩ := by decide +kernel
example : (Note.mk (lit "Db") 4 1 64).transpose (lit "b7") false = .ok ⟨lit "Eb", 3, 1, 64⟩ := by decide +kernel

end Mingus.Props.C11
