import Mingus.Props.C20
/-
  C20 — the tablature of a bar decodes to the fingerings of its entries (`from_Bar`, `from_NoteContainer`).
  `readCell` reads the digits of a cell (the columns one entry adds to one string line) as a number, or nothing when there is
  no digit.  A cell is a function of what the fingering says about its string (`lookup`): `barCell` in a bar, `colCell` in
  the single column of `from_Note` / `from_NoteContainer`; it reads back as that and is equally wide on every string.
-/
namespace Mingus.Props.C20
open Mingus Mingus.Tun Mingus.Tab Mingus.Containers

def readCell (seg : Line) : Option Int :=
  let d := seg.filter Char.isDigit
  if d = [] then none else some (C10.parseFold d)

/-- the fingering as the `{string: fret}` dict of `from_Bar`: the last assignment to a string wins -/
def lookup (f : Fingering) (i : Nat) : Option Int := (f.reverse.find? (·.1 == i)).map (·.2)

abbrev nodigit (x : Line) : Prop := x.filter Char.isDigit = []

@[simp] theorem filter_digit_rep_dash (n : Int) : (rep '-' n).filter Char.isDigit = [] := by simp [rep]

@[simp] theorem filter_digit_rep_blank (n : Int) : (rep ' ' n).filter Char.isDigit = [] := by simp [rep]

@[simp] theorem filter_digit_rjust (x : Str) (n : Nat) : (rjust x n).filter Char.isDigit = x.filter Char.isDigit := by
  simp [rjust]

@[simp] theorem filter_digit_centred (fret : Str) (w : Int) : (centred fret w).filter Char.isDigit = fret.filter Char.isDigit := by
  simp [centred]

theorem showInt_digits (fr : Int) (h : 0 ≤ fr) :
    (Note.showInt fr).filter Char.isDigit = Note.showInt fr ∧ Note.showInt fr ≠ [] ∧ C10.parseFold (Note.showInt fr) = fr := by
  rw [Note.showInt_nat fr h]
  obtain ⟨h1, h2, h3⟩ := Note.showNat_spec fr.toNat
  refine ⟨?_, h2, ?_⟩
  · rw [List.filter_eq_self]; intro c hc; exact List.all_eq_true.1 h1 c hc
  · exact (h3 : C10.parseFold _ = _).trans (by omega)

def colCell (o : Option Int) (w : Int) : Line :=
  match o with
  | none => rep '-' w ++ lit "|"
  | some fr => centred (Note.showInt fr) w

def barCell (o : Option Int) (maxlen : Nat) (dur : Int) : Line :=
  match o with
  | none => rep '-' maxlen ++ rep '-' dur
  | some fr => rjust (Note.showInt fr) maxlen ++ rep '-' dur

theorem readCell_cell (cell : Option Int → Line) (h0 : nodigit (cell none))
    (h1 : ∀ fr, (cell (some fr)).filter Char.isDigit = (Note.showInt fr).filter Char.isDigit)
    (o : Option Int) (ho : ∀ fr, o = some fr → 0 ≤ fr) : readCell (cell o) = o := by
  cases o with
  | none => simp [readCell, h0]
  | some fr =>
    obtain ⟨h, h2, h3⟩ := showInt_digits fr (ho fr rfl)
    simp [readCell, h1, h, h2, h3]

theorem readCell_colCell (o : Option Int) (w : Int) (ho : ∀ fr, o = some fr → 0 ≤ fr) : readCell (colCell o w) = o :=
  readCell_cell (colCell · w) (by simp [colCell, nodigit]) (fun fr => by simp [colCell]) o ho

theorem readCell_barCell (o : Option Int) (m : Nat) (d : Int) (ho : ∀ fr, o = some fr → 0 ≤ fr) :
    readCell (barCell o m d) = o :=
  readCell_cell (barCell · m d) (by simp [barCell, nodigit]) (fun fr => by simp [barCell]) o ho

theorem colCell_length (o : Option Int) (w : Int) (ho : ∀ fr, o = some fr → ((Note.showInt fr).length : Int) ≤ w) :
    (colCell o w).length = w.toNat + 1 := by
  cases o with
  | none => simp [colCell]
  | some fr => exact centred_length _ _ (ho fr rfl)

theorem barCell_length (o : Option Int) (m : Nat) (d : Int) (ho : ∀ fr, o = some fr → (Note.showInt fr).length ≤ m) :
    (barCell o m d).length = m + d.toNat := by
  cases o with
  | none => simp [barCell]
  | some fr => simp [barCell, rjust_length _ _ (ho fr rfl)]

theorem lookup_mem (f : Fingering) (i : Nat) (fr : Int) (h : lookup f i = some fr) : (i, fr) ∈ f := by
  obtain ⟨p, hp, rfl⟩ := Option.map_eq_some_iff.1 h
  have h1 : p ∈ f := by simpa using List.mem_of_find?_eq_some hp
  have h2 : p.1 = i := by simpa using List.find?_some hp
  exact h2 ▸ h1

theorem fst_inj (f : Fingering) (hn : (f.map (·.1)).Nodup) : ∀ ⦃x⦄, x ∈ f → ∀ ⦃y⦄, y ∈ f → x.1 = y.1 → x = y := by
  have h := List.pairwise_map.1 hn
  exact List.Pairwise.forall_of_forall_of_flip (fun _ _ _ => rfl) (h.imp fun hab e => absurd e hab)
    (h.imp fun hab e => absurd e.symm hab)

theorem lookup_iff (f : Fingering) (hn : (f.map (·.1)).Nodup) (s : Nat) (fr : Int) : lookup f s = some fr ↔ (s, fr) ∈ f := by
  refine ⟨lookup_mem f s fr, fun h => ?_⟩
  cases hl : lookup f s with
  | none =>
    have := List.find?_eq_none.1 (Option.map_eq_none_iff.1 hl) (s, fr) (by simpa using h)
    simp at this
  | some fr' => rw [(Prod.mk.inj (fst_inj f hn (lookup_mem f s fr' hl) h rfl)).2]

def appendSegs (res : List Line) (g : Nat → Line) : List Line := res.mapIdx fun i ln => ln ++ g i

theorem appendSegs_length (res : List Line) (g : Nat → Line) : (appendSegs res g).length = res.length := by
  simp [appendSegs]

theorem appendSegs_nil (res : List Line) : appendSegs res (fun _ => []) = res :=
  List.ext_getElem (by simp [appendSegs]) (by simp [appendSegs])

theorem appendSegs_appendSegs (res : List Line) (g1 g2 : Nat → Line) :
    appendSegs (appendSegs res g1) g2 = appendSegs res (fun i => g1 i ++ g2 i) := by
  simp [appendSegs, Function.comp_def, List.append_assoc]

theorem appendSegs_width (ls : List Line) (H k : Nat) (g : Nat → Line) (h : ∀ ln ∈ ls, ln.length = H)
    (hg : ∀ i, (g i).length = k) : ∀ ln ∈ appendSegs ls g, ln.length = H + k := by
  intro ln hln
  obtain ⟨i, hi, rfl⟩ := List.mem_mapIdx.1 hln
  simp [h _ (List.getElem_mem hi), hg]

theorem entryCols_eq (f : Fingering) (maxlen : Nat) (dur : Int) (i : Nat) (ln : Line) :
    entryCols f maxlen dur i ln = ln ++ barCell (lookup f i) maxlen dur := by
  unfold entryCols lookup barCell
  cases f.reverse.find? (·.1 == i) <;> simp [List.append_assoc]

/-- 4: `find_fingering`'s default `max_distance` -/
def EntryFing (t : Tuning) (e : TEntry) (f : Fingering) : Prop :=
  match e.content with
  | none => f = []
  | some notes => Assigns t notes [] f ∧ spanOk f 4 = true

def Decodes (t : Tuning) (e : TEntry) (g : Nat → Line) : Prop :=
  ∃ f, EntryFing t e f ∧ ∀ i, readCell (g i) = lookup f i

theorem entryFingering_spec (t : Tuning) (e : TEntry) (fm : Fingering × Nat) (h : entryFingering t e = .ok fm) :
    EntryFing t e fm.1 := by
  unfold entryFingering at h
  unfold EntryFing
  split at h
  · rename_i hc; cases h; simp [hc]
  · rename_i notes hc
    obtain ⟨fs, hfs, h⟩ := bind_eq_ok.1 h
    cases fs with
    | nil => cases h
    | cons f rest =>
      cases h
      simpa [hc] using (mem_findFingering t notes 4 (f :: rest) hfs f).1 (by simp)

theorem entryFing_nonneg (t : Tuning) (e : TEntry) (f : Fingering) (h : EntryFing t e f) : ∀ p ∈ f, 0 ≤ p.2 := by
  unfold EntryFing at h
  split at h
  · subst h; simp
  · exact assigns_nonneg t _ [] f h.1

theorem barStep_ok (t : Tuning) (qsize : Int) (res0 res : List Line) (e : TEntry) (h : barStep t qsize res0 e = .ok res) :
    ∃ fm, entryFingering t e = .ok fm ∧
      res = appendSegs res0 fun i => barCell (lookup fm.1 i) (maxLen fm.1 fm.2) (columns e.value qsize - maxLen fm.1 fm.2) := by
  unfold barStep at h
  split at h
  · cases h
  · obtain ⟨fm, hfm, h⟩ := bind_eq_ok.1 h
    refine ⟨fm, hfm, ?_⟩
    rw [← pure_eq_ok.1 h, zip_range_map]
    exact congrArg (List.mapIdx · res0) (funext fun i => funext fun ln => entryCols_eq _ _ _ i ln)

theorem barStep_decode (t : Tuning) (qsize : Int) (res0 res : List Line) (e : TEntry)
    (h : barStep t qsize res0 e = .ok res) : ∃ g, res = appendSegs res0 g ∧ Decodes t e g := by
  obtain ⟨fm, hfm, rfl⟩ := barStep_ok t qsize res0 res e h
  have hef := entryFingering_spec t e fm hfm
  exact ⟨_, rfl, fm.1, hef, fun i => readCell_barCell _ _ _ fun fr hfr =>
    entryFing_nonneg t e fm.1 hef _ (lookup_mem fm.1 i fr hfr)⟩

def cellsOn (gs : List (Nat → Line)) (i : Nat) : Line := (gs.map (· i)).flatten

theorem cellsOn_concat (gs : List (Nat → Line)) (g : Nat → Line) : cellsOn (gs ++ [g]) = fun i => cellsOn gs i ++ g i := by
  funext i; simp [cellsOn]

theorem foldl_barStep_decode (t : Tuning) (qsize : Int) (es : List TEntry) : ∀ (res0 res : List Line),
    es.foldlM (barStep t qsize) res0 = .ok res →
    ∃ gs : List (Nat → Line), res = appendSegs res0 (cellsOn gs) ∧ List.Forall₂ (Decodes t) es gs := by
  intro res0 res hr
  refine foldlM_inv _ (fun res done => ∃ gs, res = appendSegs res0 (cellsOn gs) ∧ List.Forall₂ (Decodes t) done gs) es res0 res hr
    ⟨[], (appendSegs_nil res0).symm, .nil⟩ ?_
  rintro _ e _ r1 done ⟨gs, rfl, hgs⟩ h1
  obtain ⟨g, rfl, hg⟩ := barStep_decode t qsize _ r1 e h1
  exact ⟨gs ++ [g], by rw [appendSegs_appendSegs, cellsOn_concat], List.rel_append hgs (.cons hg .nil)⟩

theorem fromBar_ok (t : Tuning) (b : TBar) (width : Int) (ls : List Line) (h : fromBar t b width = .ok ls) :
    ∃ qs start result top close, qSize t width = .ok qs ∧ beginTrack t (max 2 (qs / 2)) = .ok start ∧
      b.entries.foldlM (barStep t qs) start = .ok result ∧ nodigit close ∧ ls = top :: (result.map (· ++ close)).reverse := by
  simp only [fromBar, bind_eq_ok, List.append_assoc] at h
  obtain ⟨qs, hq, start, hs, result, hr, h⟩ := h
  split at h
  · simp at h
  · refine ⟨qs, start, result, _, _, hq, hs, hr, ?_, (pure_eq_ok.1 h).symm⟩
    simp [nodigit]

/-- what `from_Bar` hands to `from_Track`, in the shape the system bookkeeping needs -/
theorem fromBar_system (t : Tuning) (b : TBar) (width : Int) (ls : List Line) (h : fromBar t b width = .ok ls) :
    ∃ (top : Line) (L start : List Line) (gs : List (Nat → Line)) (close : Line), ls = top :: L ∧
      (∃ qs pad, qSize t width = .ok qs ∧ pad = max 2 (qs / 2) ∧ beginTrack t pad = .ok start) ∧
      L.reverse = appendSegs start (fun i => cellsOn gs i ++ close) ∧ List.Forall₂ (Decodes t) b.entries gs ∧ nodigit close := by
  obtain ⟨qs, start, result, top, close, hq, hs, hres, hclose, rfl⟩ := fromBar_ok t b width ls h
  obtain ⟨gs, rfl, hgs⟩ := foldl_barStep_decode t qs b.entries start result hres
  refine ⟨top, _, start, gs, close, rfl, ⟨qs, _, hq, rfl, hs⟩, ?_, hgs, hclose⟩
  rw [List.reverse_reverse]
  apply List.ext_getElem <;> simp [appendSegs, List.append_assoc]

/-- **from_Bar decodes**: the string lines of a rendered bar (highest string first, below the quarter-mark line) are some
    leading columns `start` (the labels: `fromBar_ok` says they are `begin_track`'s), then one cell per entry in order,
    then a digit-free closing (the dashes and the bar line), and the cells of entry `k` read back exactly as a fingering
    of entry `k` (`Decodes`) -/
theorem fromBar_decode (t : Tuning) (b : TBar) (width : Int) (ls : List Line) (h : fromBar t b width = .ok ls) :
    ∃ (start : List Line) (gs : List (Nat → Line)) (close : Line),
      ls.tail.reverse = appendSegs start (fun i => cellsOn gs i ++ close) ∧
      List.Forall₂ (Decodes t) b.entries gs ∧ close.filter Char.isDigit = [] := by
  obtain ⟨top, L, start, gs, close, rfl, _, h1, h2, h3⟩ := fromBar_system t b width ls h
  exact ⟨start, gs, close, h1, h2, h3⟩

/-- **from_Bar**: for every single-string tuning whose labels fit the label column, every bar and every width, the string
    lines of the rendering (everything after the quarter-mark line) all have the same length -/
theorem fromBar_equal_lengths (t : Tuning) (b : TBar) (width : Int) (names : List Str) (ls : List Line)
    (hl : labels t = .ok names) (hfit : ∀ x ∈ names, (x.length : Int) + 1 ≤ (maxStr names).length + 3)
    (h : fromBar t b width = .ok ls) :
    ∃ L, ∀ ln ∈ ls.tail, ln.length = L := by
  obtain ⟨qs, start, result, top, close, hq, hs, hres, _, rfl⟩ := fromBar_ok t b width ls h
  obtain ⟨H, hH⟩ : ∃ H, ∀ ln ∈ result, ln.length = H := by
    refine foldlM_inv _ (fun res _ => ∃ H, ∀ ln ∈ res, ln.length = H) b.entries start result hres ?_ ?_
    · exact beginTrack_equal t _ names start hl hfit hs
    · rintro res e _ res' _ ⟨H, hH⟩ h1
      obtain ⟨fm, _, rfl⟩ := barStep_ok t qs res res' e h1
      exact ⟨_, appendSegs_width res H _ _ hH fun i => barCell_length _ _ _ fun fr hfr =>
        (maxLen_ge fm.1 fm.2).2 _ (lookup_mem fm.1 i fr hfr)⟩
  refine ⟨H + close.length, fun ln hln => ?_⟩
  simp only [List.tail_cons, List.mem_reverse, List.mem_map] at hln
  obtain ⟨x, hx, rfl⟩ := hln
  simp [hH x hx]

/-- **what is read off an entry's cells**: string `s` shows fret `fr` exactly when the entry's fingering assigns `(s, fr)`;
    the fingering has one pair per note, in order, each sounding its note (`Assigns`); a rest shows nothing -/
theorem decodes_spec (t : Tuning) (e : TEntry) (g : Nat → Line) (h : Decodes t e g) :
    match e.content with
    | none => ∀ i, readCell (g i) = none
    | some notes => ∃ f, Assigns t notes [] f ∧ spanOk f 4 = true ∧ f.length = notes.length ∧
        ∀ s fr, readCell (g s) = some fr ↔ (s, fr) ∈ f := by
  obtain ⟨f, hf, hread⟩ := h
  unfold EntryFing at hf
  split
  · rename_i hc
    simp only [hc] at hf
    subst hf
    intro i; rw [hread i]; simp [lookup]
  · rename_i notes hc
    simp only [hc] at hf
    obtain ⟨hd, _, hlen⟩ := strings_distinct t notes [] f hf.1
    exact ⟨f, hf.1, hf.2, hlen, fun s fr => by rw [hread s, lookup_iff f hd s fr]⟩

private def nt (s : String) (o : Int) : Note := ⟨s.toList, o, 1, 64⟩

example : (barStep defaultTuning 5 (List.replicate 6 []) ⟨4, some [nt "C" 3, nt "E" 3]⟩).map (·.map readCell) =
    .ok [none, some 3, some 2, none, none, none] := by decide +kernel

example : (barStep defaultTuning 5 (List.replicate 6 []) ⟨4, none⟩).map (·.map readCell) =
    .ok [none, none, none, none, none, none] := by decide +kernel

/-- **from_NoteContainer decodes**: the lines (highest string first) are some leading columns `start` (the labels)
    followed by ONE cell, and the cell of string `i` reads `fr` exactly when the fingering used - one that
    `find_fingering` returns (`Assigns`, `spanOk`) - assigns `(i, fr)` -/
theorem fromNC_decode (t : Tuning) (notes : NC) (width : Int) (ls : List Line) (h : fromNC t notes width = .ok ls) :
    ∃ (start : List Line) (f : Fingering) (cells : Nat → Line),
      ls.reverse = appendSegs start cells ∧ Assigns t notes [] f ∧ spanOk f 4 = true ∧
      ∀ s fr, readCell (cells s) = some fr ↔ (s, fr) ∈ f := by
  simp only [fromNC, bind_eq_ok] at h
  obtain ⟨start, _, fs, hfs, h⟩ := h
  cases fs with
  | nil => cases h
  | cons f rest =>
    obtain ⟨h1, h2⟩ := (mem_findFingering t notes 4 (f :: rest) hfs f).1 (by simp)
    refine ⟨start, f, fun i => colCell (lookup f i) (max 4 ((width - ((start.headD []).length : Int)) - 1)), ?_, h1, h2,
      fun s fr => ?_⟩
    · rw [← pure_eq_ok.1 h, List.reverse_reverse, appendSegs, ← zip_range_map]
      refine List.map_congr_left fun p _ => ?_
      simp only [lookup, colCell]
      cases f.reverse.find? (·.1 == p.1) <;> simp [List.append_assoc]
    · rw [readCell_colCell _ _ fun fr hfr => assigns_nonneg t notes [] f h1 _ (lookup_mem f s fr hfr),
        lookup_iff f (strings_distinct t notes [] f h1).1]

end Mingus.Props.C20
