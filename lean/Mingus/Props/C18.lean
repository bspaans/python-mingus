import Mingus.Model.Sequencer
import Mingus.Lemmas.ListM
import Mathlib.Data.List.Nodup
/-
  C18 — sequencer playback emits a balanced, ordered, correctly timed event stream.

  `Ext st st' evs`: `st'` is `st` after the hook events `evs`, every attached observer received exactly `evs` and nobody
  else anything.  Every playing operation, the parallel scheduler included, satisfies `Ext` for some `evs` (the `_inv`
  lemmas); for the sequential operations `evs` is given in closed form.  On unequal rhythms the parallel scheduler is
  refuted by a kernel-evaluated run (`parallel_counterexample`, known finding C18-parallel-scheduler).
-/
namespace Mingus.Props.C18
open Mingus Mingus.Seq Mingus.Containers

def WF (st : St) : Prop := st.obs.length = 2 ∧ st.listeners.Nodup ∧ ∀ k ∈ st.listeners, k < 2

def Ext (st st' : St) (evs : List SEv) : Prop :=
  st'.hooks = st.hooks ++ evs ∧ st'.listeners = st.listeners ∧ st'.obs.length = st.obs.length ∧
  ∀ k, st'.obs.getD k [] = st.obs.getD k [] ++ (if k ∈ st.listeners then evs else [])

theorem Ext.refl (st : St) : Ext st st [] := by simp [Ext]

theorem Ext.trans {a b c : St} {x y : List SEv} (h1 : Ext a b x) (h2 : Ext b c y) : Ext a c (x ++ y) := by
  obtain ⟨a1, a2, a3, a4⟩ := h1
  obtain ⟨b1, b2, b3, b4⟩ := h2
  refine ⟨by rw [b1, a1, List.append_assoc], by rw [b2, a2], by rw [b3, a3], ?_⟩
  intro k
  rw [b4 k, a4 k, a2]
  by_cases hk : k ∈ a.listeners <;> simp [hk]

theorem Ext.wf {a b : St} {x : List SEv} (h : Ext a b x) (hw : WF a) : WF b := by
  obtain ⟨_, a2, a3, _⟩ := h
  exact ⟨by rw [a3]; exact hw.1, by rw [a2]; exact hw.2.1, by rw [a2]; exact hw.2.2⟩

theorem foldl_addAt {α} (g : α → α) (ls : List Nat) (hnd : ls.Nodup) (o : List α) :
    ls.foldl (fun o k => addAt o k g) o = o.mapIdx fun j x => if j ∈ ls then g x else x := by
  induction ls generalizing o with
  | nil => exact (List.mapIdx_eq_iff.2 fun i => by simp).symm
  | cons a as ih =>
    obtain ⟨ha, has⟩ := List.nodup_cons.1 hnd
    rw [List.foldl_cons, ih has, addAt, List.mapIdx_mapIdx]
    congr 1; funext j x
    by_cases hj : j = a
    · simp [hj, ha]
    · simp [hj]

theorem emit_ext (st : St) (e : SEv) (hw : WF st) : Ext st (emit st e) [e] := by
  obtain ⟨h1, h2, h3⟩ := hw
  have ho : (emit st e).obs = st.obs.mapIdx fun j x => if j ∈ st.listeners then x ++ [e] else x := foldl_addAt _ _ h2 _
  refine ⟨rfl, rfl, by rw [ho, List.length_mapIdx], fun k => ?_⟩
  rw [ho, List.getD_eq_getElem?_getD, List.getD_eq_getElem?_getD, List.getElem?_mapIdx]
  cases hk : st.obs[k]? with
  | some x => by_cases hm : k ∈ st.listeners <;> simp [hm]
  | none =>
    -- no log at `k`: then `k ≥ 2`, and listeners are `< 2`
    have : k ∉ st.listeners := fun hm => by
      have := h3 k hm
      rw [List.getElem?_eq_none_iff] at hk; omega
    simp [this]

/-- `Ext` and `WF` do not mention `St.high` -/
theorem Ext.high {st st' : St} {evs : List SEv} (h : Ext st st' evs) : Ext st (notifyHigh st') evs := h
theorem Ext.of_high {st st' : St} {evs : List SEv} (h : Ext (notifyHigh st) st' evs) : Ext st st' evs := h
theorem WF.high {st : St} (h : WF st) : WF (notifyHigh st) := h

theorem attach_idem (st : St) (k : Nat) : attach (attach st k) k = attach st k := by
  by_cases h : k ∈ st.listeners <;> simp [attach, h]

theorem attach_wf (st : St) (k : Nat) (hk : k < 2) (hw : WF st) : WF (attach st k) := by
  by_cases h : k ∈ st.listeners
  · simpa [attach, h] using hw
  · simp only [attach, List.contains_iff_mem, h, if_false]
    refine ⟨hw.1, by simpa [List.nodup_append, hw.2.1] using fun a ha (e : a = k) => h (e ▸ ha), fun j hj => ?_⟩
    rcases List.mem_append.1 hj with hj | hj
    · exact hw.2.2 j hj
    · exact List.mem_singleton.1 hj ▸ hk

theorem detach_wf (st : St) (k : Nat) (hw : WF st) : WF (detach st k) := by
  refine ⟨hw.1, hw.2.1.erase k, ?_⟩
  intro j hj; exact hw.2.2 j (List.mem_of_mem_erase hj)

/-- so by `emit_ext` nothing more is delivered to a detached observer -/
theorem detach_not_listening (st : St) (k : Nat) (hw : WF st) : k ∉ (detach st k).listeners := by
  simp only [detach]
  intro h
  exact (List.Nodup.mem_erase_iff hw.2.1).1 h |>.1 rfl

theorem attach_listening (st : St) (k : Nat) : k ∈ (attach st k).listeners := by
  by_cases h : k ∈ st.listeners <;> simp [attach, h]

theorem cc_guard (st : St) (ch c v : Int) :
    ((controlChange st ch c v).1 = false ↔ (c < 0 ∨ c > 128 ∨ v < 0 ∨ v > 128)) ∧
    ((controlChange st ch c v).1 = false → (controlChange st ch c v).2 = st) ∧
    ((controlChange st ch c v).1 = true → (controlChange st ch c v).2 = emit st (.cc ch c v)) := by
  unfold controlChange
  split_ifs with h1 h2 <;> simp <;> omega

def okN (n : Note) : Prop := n.toInt = .ok n.pitch

def onE (n : Note) : SEv := .play (n.pitch + 12) n.channel n.velocity
def offE (n : Note) : SEv := .stop (n.pitch + 12) n.channel

theorem playNote_ok (st : St) {n : Note} (h : okN n) : playNote st n = .ok (notifyHigh (emit st (onE n))) := ok_then h rfl
theorem stopNote_ok (st : St) {n : Note} (h : okN n) : stopNote st n = .ok (notifyHigh (emit st (offE n))) := ok_then h rfl

def ncNotes (c : Option NC) : List Note := match c with | some l => l | none => []

theorem playNC_eq (st : St) (c : Option NC) : playNC st c = (ncNotes c).foldlM playNote (notifyHigh st) := by cases c <;> rfl
theorem stopNC_eq (st : St) (c : Option NC) : stopNC st c = (ncNotes c).foldlM stopNote (notifyHigh st) := by cases c <;> rfl

/-- starting and stopping a container are the same walk -/
theorem nc_spec {f : St → Note → Except Err St} {g : Note → SEv}
    (hf : ∀ st n, okN n → f st n = .ok (notifyHigh (emit st (g n)))) (st : St) (ns : List Note) (h : ∀ n ∈ ns, okN n) (hw : WF st) :
    ∃ st', ns.foldlM f (notifyHigh st) = .ok st' ∧ Ext st st' (ns.map g) := by
  obtain ⟨s, e⟩ := foldlM_ok f ns (fun s n hn => ⟨_, hf s n (h n hn)⟩) (notifyHigh st)
  refine ⟨s, e, foldlM_inv f (fun s done => Ext st s (done.map g)) ns _ s e (Ext.refl st).high fun b a ha b' done hp hb => ?_⟩
  cases (hf b a (h a ha)).symm.trans hb
  simpa using hp.trans (emit_ext b (g a) (hp.wf hw)).high

theorem playNC_spec (st : St) (c : Option NC) (h : ∀ n ∈ ncNotes c, okN n) (hw : WF st) :
    ∃ st', playNC st c = .ok st' ∧ Ext st st' ((ncNotes c).map onE) :=
  playNC_eq st c ▸ nc_spec (fun st _ => playNote_ok st) st _ h hw

theorem stopNC_spec (st : St) (c : Option NC) (h : ∀ n ∈ ncNotes c, okN n) (hw : WF st) :
    ∃ st', stopNC st c = .ok st' ∧ Ext st st' ((ncNotes c).map offE) :=
  stopNC_eq st c ▸ nc_spec (fun st _ => stopNote_ok st) st _ h hw

def tempoAfter (bpm : Int) (e : SEntry) : Int := match e.bpm with | some b => b | none => bpm

theorem tempoAfter_eq (bpm : Int) (e : SEntry) : tempoAfter bpm e = e.bpm.getD bpm := by
  unfold tempoAfter; cases e.bpm <;> rfl

def entryTrace (bpm : Int) (e : SEntry) : List SEv :=
  (ncNotes e.content).map onE ++ [.sleep (secs (tempoAfter bpm e) e.value)] ++ (ncNotes e.content).map offE

def okE (bpm : Int) (e : SEntry) : Prop := (∀ n ∈ ncNotes e.content, okN n) ∧ tempoAfter bpm e ≠ 0 ∧ e.value ≠ 0

theorem playEntry_spec (st : St) (bpm : Int) (e : SEntry) (h : okE bpm e) (hw : WF st) :
    ∃ st', playEntry (st, bpm) e = .ok (st', tempoAfter bpm e) ∧ Ext st st' (entryTrace bpm e) := by
  obtain ⟨h1, h2, h3⟩ := h
  obtain ⟨s1, e1, x1⟩ := playNC_spec st e.content h1 hw
  have x2 := emit_ext s1 (.sleep (secs (tempoAfter bpm e) e.value)) (x1.wf hw)
  obtain ⟨s3, e3, x3⟩ := stopNC_spec _ e.content h1 (x2.wf (x1.wf hw))
  refine ⟨s3, ok_then e1 ?_, by simpa [entryTrace] using (x1.trans x2).trans x3⟩
  -- the `match` on `e.bpm` in `playEntry` is `tempoAfter`
  show (if tempoAfter bpm e = 0 then _ else _) = _
  rw [if_neg h2, if_neg h3]
  exact ok_then e3 rfl

def entriesTrace : Int → List SEntry → List SEv × Int
  | bpm, [] => ([], bpm)
  | bpm, e :: es => (entryTrace bpm e ++ (entriesTrace (tempoAfter bpm e) es).1, (entriesTrace (tempoAfter bpm e) es).2)

def okEs : Int → List SEntry → Prop
  | _, [] => True
  | bpm, e :: es => okE bpm e ∧ okEs (tempoAfter bpm e) es

theorem entries_spec (es : List SEntry) : ∀ (st : St) (bpm : Int), okEs bpm es → WF st →
    ∃ st', es.foldlM playEntry (st, bpm) = .ok (st', (entriesTrace bpm es).2) ∧ Ext st st' (entriesTrace bpm es).1 := by
  induction es with
  | nil => intro st bpm _ _; exact ⟨st, rfl, Ext.refl st⟩
  | cons e es ih =>
    intro st bpm h hw
    obtain ⟨s1, e1, x1⟩ := playEntry_spec st bpm e h.1 hw
    obtain ⟨s2, e2, x2⟩ := ih s1 _ h.2 (x1.wf hw)
    exact ⟨s2, (List.foldlM_cons ..).trans (ok_then e1 e2), by simpa [entriesTrace] using x1.trans x2⟩

/-- **play_Bar**: for every bar that `okEs` admits (valid notes, no value 0, no tempo 0) — chords, rests (None or empty),
    tempo-changing containers — per entry in order the note-ons (pitch + 12, own channel, own velocity), one sleep, the
    matching note-offs; observers receive exactly that; the last tempo is returned -/
theorem playBar_spec (st : St) (b : SBar) (bpm : Int) (hb : bpm ≠ 0) (h : okEs bpm b.entries) (hw : WF st) :
    ∃ st', playBar st b bpm = .ok (st', (entriesTrace bpm b.entries).2) ∧ Ext st st' (entriesTrace bpm b.entries).1 := by
  obtain ⟨s, e, x⟩ := entries_spec b.entries (notifyHigh st) bpm h hw.high
  exact ⟨s, by rw [playBar, if_neg hb]; exact e, x.of_high⟩

def barsTrace : Int → List SBar → List SEv × Int
  | bpm, [] => ([], bpm)
  | bpm, b :: bs => ((entriesTrace bpm b.entries).1 ++ (barsTrace (entriesTrace bpm b.entries).2 bs).1,
                    (barsTrace (entriesTrace bpm b.entries).2 bs).2)

def okBs : Int → List SBar → Prop
  | _, [] => True
  | bpm, b :: bs => bpm ≠ 0 ∧ okEs bpm b.entries ∧ okBs (entriesTrace bpm b.entries).2 bs

/-- **play_Track**: the bars one after the other, the tempo carried from bar to bar -/
theorem playTrack_spec (bs : List SBar) (st : St) (bpm : Int) (h : okBs bpm bs) (hw : WF st) :
    ∃ st', playTrack st bs bpm = .ok (st', (barsTrace bpm bs).2) ∧ Ext st st' (barsTrace bpm bs).1 := by
  suffices ∀ (bs : List SBar) (st : St) (bpm : Int), okBs bpm bs → WF st →
      ∃ st', bs.foldlM (fun acc b => playBar acc.1 b acc.2) (st, bpm) = .ok (st', (barsTrace bpm bs).2) ∧
        Ext st st' (barsTrace bpm bs).1 by
    obtain ⟨s, e, x⟩ := this bs (notifyHigh st) bpm h hw.high
    exact ⟨s, e, x.of_high⟩
  intro bs
  induction bs with
  | nil => intro st bpm _ _; exact ⟨st, rfl, Ext.refl st⟩
  | cons b bs ih =>
    intro st bpm h hw
    obtain ⟨s1, e1, x1⟩ := playBar_spec st b bpm h.1 h.2.1 hw
    obtain ⟨s2, e2, x2⟩ := ih s1 _ h.2.2 (x1.wf hw)
    exact ⟨s2, (List.foldlM_cons ..).trans (ok_then e1 e2), by simpa [barsTrace] using x1.trans x2⟩

def sound : List (Int × Int) → List SEv → Option (List (Int × Int))
  | on, [] => some on
  | on, .play p c _ :: rest => if (p, c) ∈ on then none else sound ((p, c) :: on) rest
  | on, .stop p c :: rest => if (p, c) ∈ on then sound (on.erase (p, c)) rest else none
  | on, _ :: rest => sound on rest

def slept : List SEv → List Rat
  | [] => []
  | .sleep s :: rest => s :: slept rest
  | _ :: rest => slept rest

theorem slept_append (a b : List SEv) : slept (a ++ b) = slept a ++ slept b := by
  induction a with
  | nil => rfl
  | cons e es ih => cases e <;> simp [slept, ih]

theorem slept_map_on (ns : List Note) : slept (ns.map onE) = [] := by
  induction ns with
  | nil => rfl
  | cons n ns ih => simp [slept, onE, ih]
theorem slept_map_off (ns : List Note) : slept (ns.map offE) = [] := by
  induction ns with
  | nil => rfl
  | cons n ns ih => simp [slept, offE, ih]

/-- **time**: the sleeps of a bar are, entry by entry, `secs` (the double `60.0 / bpm * (4.0 / value)`) at the tempo in
    force -/
theorem slept_entries (es : List SEntry) : ∀ bpm,
    slept (entriesTrace bpm es).1 = (es.zip (es.scanl tempoAfter bpm).tail).map fun p => secs p.2 p.1.value := by
  induction es with
  | nil => intro bpm; rfl
  | cons e es ih =>
    intro bpm
    simp only [entriesTrace, entryTrace, slept_append, slept_map_on, slept_map_off, slept, List.nil_append, List.append_nil,
      List.scanl_cons, List.tail_cons]
    rw [ih (tempoAfter bpm e)]
    cases es with
    | nil => simp
    | cons e2 es2 => simp [List.scanl_cons]

def key (m : Note) : Int × Int := (m.pitch + 12, m.channel)

theorem sound_onE (on : List (Int × Int)) (n : Note) (rest : List SEv) :
    sound on (onE n :: rest) = if key n ∈ on then none else sound (key n :: on) rest := rfl
theorem sound_offE (on : List (Int × Int)) (n : Note) (rest : List SEv) :
    sound on (offE n :: rest) = if key n ∈ on then sound (on.erase (key n)) rest else none := rfl

theorem sound_ons (ns : List Note) : ∀ (on : List (Int × Int)) (rest : List SEv),
    (ns.map key).Nodup → (∀ m ∈ ns, key m ∉ on) →
    sound on (ns.map onE ++ rest) = sound ((ns.map key).reverse ++ on) rest := by
  induction ns with
  | nil => intro on rest _ _; rfl
  | cons n ns ih =>
    intro on rest hnd hfresh
    obtain ⟨h1, h2⟩ := List.nodup_cons.1 hnd
    obtain ⟨hn, ht⟩ := List.forall_mem_cons.1 hfresh
    rw [List.map_cons, List.cons_append, sound_onE, if_neg hn, ih _ rest h2]
    · simp
    · intro m hm
      rw [List.mem_cons, not_or]
      exact ⟨fun heq => h1 (heq ▸ List.mem_map_of_mem hm), ht m hm⟩

theorem sound_offs (ns : List Note) : ∀ (on : List (Int × Int)) (rest : List SEv),
    (ns.map key).Nodup → (∀ m ∈ ns, key m ∈ on) →
    sound on (ns.map offE ++ rest) = sound ((ns.map key).foldl List.erase on) rest := by
  induction ns with
  | nil => intro on rest _ _; rfl
  | cons n ns ih =>
    intro on rest hnd hmem
    obtain ⟨h1, h2⟩ := List.nodup_cons.1 hnd
    obtain ⟨hn, ht⟩ := List.forall_mem_cons.1 hmem
    rw [List.map_cons, List.cons_append, sound_offE, if_pos hn, List.map_cons, List.foldl_cons]
    exact ih _ rest h2 fun m hm =>
      (List.mem_erase_of_ne fun (heq : key m = key n) => h1 (heq ▸ List.mem_map_of_mem hm)).2 (ht m hm)

def distinct (es : List SEntry) : Prop := ∀ e ∈ es, ((ncNotes e.content).map fun m => (m.pitch + 12, m.channel)).Nodup

/-- **balance**: played from silence, the trace of a bar none of whose containers holds a (pitch, channel) twice
    (`distinct`) never starts a sounding note again, never stops a silent one and ends in silence -/
theorem entries_balanced (es : List SEntry) (hd : distinct es) : ∀ (bpm : Int) (rest : List SEv),
    sound [] ((entriesTrace bpm es).1 ++ rest) = sound [] rest := by
  induction es with
  | nil => intro bpm rest; rfl
  | cons e es ih =>
    intro bpm rest
    obtain ⟨(hnd : ((ncNotes e.content).map key).Nodup), ht⟩ := List.forall_mem_cons.1 hd
    simp only [entriesTrace, entryTrace, List.append_assoc]
    rw [sound_ons _ [] _ hnd (by simp)]
    show sound _ (List.map offE _ ++ _) = _
    rw [sound_offs _ _ _ hnd (fun m hm => by simpa using ⟨m, hm, rfl⟩), foldl_erase_reverse _ hnd]
    exact ih ht _ rest

def Sync (st st' : St) : Prop := ∃ evs, Ext st st' evs

theorem Sync.refl (st : St) : Sync st st := ⟨[], Ext.refl st⟩
theorem Sync.emit {a b : St} (h : Sync a b) (hw : WF a) (e : SEv) : Sync a (emit b e) :=
  let ⟨_, hx⟩ := h; ⟨_, hx.trans (emit_ext b e (hx.wf hw))⟩
theorem Sync.high {a b : St} (h : Sync a b) : Sync a (notifyHigh b) := h.imp fun _ hx => hx.high

/-! Every playing operation (not `attach` / `detach`) touches the state through `emit` and `notifyHigh` only, so whatever
    these two preserve is preserved by every run that succeeds - the parallel scheduler included, re-triggers and all. -/
section
variable {P : St → Prop} (he : ∀ st e, P st → P (emit st e)) (hn : ∀ st, P st → P (notifyHigh st))
include he hn

theorem playNote_inv {st st' n} (h : playNote st n = .ok st') (hp : P st) : P st' := by
  obtain ⟨p, -, h⟩ := bind_eq_ok.1 h
  cases h; exact hn _ (he _ _ hp)

theorem stopNote_inv {st st' n} (h : stopNote st n = .ok st') (hp : P st) : P st' := by
  obtain ⟨p, -, h⟩ := bind_eq_ok.1 h
  cases h; exact hn _ (he _ _ hp)

theorem playNC_inv {st st' c} (h : playNC st c = .ok st') (hp : P st) : P st' :=
  foldlM_inv playNote (fun s _ => P s) _ _ _ (playNC_eq st c ▸ h) (hn _ hp) fun _ _ _ _ _ hp h => playNote_inv he hn h hp

theorem stopNC_inv {st st' c} (h : stopNC st c = .ok st') (hp : P st) : P st' :=
  foldlM_inv stopNote (fun s _ => P s) _ _ _ (stopNC_eq st c ▸ h) (hn _ hp) fun _ _ _ _ _ hp h => stopNote_inv he hn h hp

theorem startDue_inv {bars chans tick l acc r} (h : startDue bars chans tick l acc = .ok r) (hp : P acc.1) : P r.1 := by
  induction l generalizing acc with
  | nil => cases h; exact hp
  | cons p l ih =>
    obtain ⟨st, bpm, pn, pl⟩ := acc
    unfold startDue at h
    split at h
    · cases h
    · split at h
      · cases h
      · split at h
        · split at h
          · cases h
          · obtain ⟨s, h1, h2⟩ := bind_eq_ok.1 h
            exact ih h2 (playNC_inv he hn h1 hp)
        · exact ih h hp

theorem settle_inv {bars shortest l acc r} (h : settle bars shortest l acc = .ok r) (hp : P acc.1) : P r.1 := by
  induction l generalizing acc with
  | nil => cases h; exact hp
  | cons p l ih =>
    obtain ⟨st, cur, keep⟩ := acc
    simp only [settle] at h
    split at h
    · exact ih h hp
    · obtain ⟨s, h1, h2⟩ := bind_eq_ok.1 h
      exact ih h2 (stopNC_inv he hn h1 hp)

theorem barsLoop_inv {bars chans len0 fuel st bpm tick cur pl r}
    (h : barsLoop bars chans len0 fuel st bpm tick cur pl = .ok r) (hp : P st) : P r.1 := by
  induction fuel generalizing st bpm tick cur pl with
  | zero => cases h
  | succ fuel ih =>
    unfold barsLoop at h
    split at h
    · cases h; exact hp
    · obtain ⟨⟨s1, bpm1, pn1, pl1⟩, h1, h⟩ := bind_eq_ok.1 h
      have p1 : P s1 := startDue_inv he hn h1 hp
      simp only at h
      split at h
      · cases h
      · split at h
        · cases h; exact p1
        · -- the length of the sleep comes from what was started, else from the one container still sounding
          split at h <;> [skip; split at h <;> [skip; cases h]]
          all_goals
            obtain ⟨sh, -, h⟩ := bind_eq_ok.1 h
            split at h
            · cases h
            · obtain ⟨⟨s3, cur3, pl3⟩, h3, h⟩ := bind_eq_ok.1 h
              exact ih h (settle_inv he hn h3 (he _ _ p1))

theorem finalLoop_inv {fuel i l st st'} (h : finalLoop fuel i l st = .ok st') (hp : P st) : P st' := by
  induction fuel generalizing i l st with
  | zero => cases h; exact hp
  | succ fuel ih =>
    unfold finalLoop at h
    split at h
    · cases h; exact hp
    · obtain ⟨s1, h1, h⟩ := bind_eq_ok.1 h
      obtain ⟨l1, -, h⟩ := bind_eq_ok.1 h
      exact ih h (stopNC_inv he hn h1 hp)

theorem playBars_inv {st bars chans bpm r} (h : playBars st bars chans bpm = .ok r) (hp : P st) : P r.1 := by
  unfold playBars at h
  split at h
  · cases h
  · split at h
    · cases h
    · obtain ⟨⟨s1, ob, pl⟩, h1, h⟩ := bind_eq_ok.1 h
      have p1 : P s1 := barsLoop_inv he hn h1 (hn _ hp)
      cases ob with
      | none => cases h; exact p1
      | some b =>
        obtain ⟨s2, h2, h⟩ := bind_eq_ok.1 h
        cases h; exact finalLoop_inv he hn h2 p1

theorem groupsLoop_inv {tracks chans l st bpm r} (h : groupsLoop tracks chans l st bpm = .ok r) (hp : P st) : P r.1 := by
  induction l generalizing st bpm with
  | nil => cases h; exact hp
  | cons i l ih =>
    unfold groupsLoop at h
    obtain ⟨bars, -, h⟩ := bind_eq_ok.1 h
    obtain ⟨⟨s1, ob⟩, h1, h⟩ := bind_eq_ok.1 h
    have p1 : P s1 := playBars_inv he hn h1 hp
    cases ob with
    | none => cases h; exact p1
    | some b => exact ih h p1

end

/-- **observers, parallel playback**: whatever `play_Bars` does — unequal rhythms, re-triggers and all — observers receive
    exactly the hook events -/
theorem playBars_sync (st : St) (bars : List SBar) (chans : List Int) (bpm : Int) (r : St × Option Int)
    (h : playBars st bars chans bpm = .ok r) (hw : WF st) : Sync st r.1 :=
  playBars_inv (P := Sync st) (fun _ e h => h.emit hw e) (fun _ h => h.high) h (Sync.refl st)

def announce (chans : List Int) (x : Nat × Instr × List SBar) : SEv := .instr (chans[x.1]?.getD 0) (program x.2.1) 0

theorem announce_fold (chans : List Int) (l : List (Nat × Instr × List SBar)) : ∀ (st st' : St),
    l.foldlM (fun s (x : Nat × Instr × List SBar) =>
      match chans[x.1]? with
      | none => (.error .index : Except Err St)
      | some ch => pure (setInstrument s ch (program x.2.1) 0)) st = .ok st' → WF st → Ext st st' (l.map (announce chans)) := by
  intro st st' h hw
  refine foldlM_inv _ (fun s done => Ext st s (done.map (announce chans))) l st st' h (Ext.refl st) fun s x _ s' done hp hs => ?_
  cases hc : chans[x.1]? with
  | none => rw [hc] at hs; cases hs
  | some ch =>
    rw [hc] at hs; cases hs
    simpa [announce, hc, setInstrument] using hp.trans (emit_ext s (.instr ch (program x.2.1) 0) (hp.wf hw))

/-- **play_Tracks first announces one instrument per track on its channel** (a General MIDI name's index, else the
    instrument's own number, else 1), then plays; observers see all of it -/
theorem playTracks_spec (st : St) (tracks : List (Instr × List SBar)) (chans : List Int) (bpm : Int) (r : St × Option Int)
    (h : playTracks st tracks chans bpm = .ok r) (hw : WF st) :
    ∃ rest, Ext st r.1 ((List.zip (List.range tracks.length) tracks).map (announce chans) ++ rest) := by
  obtain ⟨s1, h1, h⟩ := bind_eq_ok.1 h
  have x1 := (announce_fold chans _ _ _ h1 hw.high).of_high
  cases tracks with
  | nil => cases h
  | cons t0 ts =>
    have hw1 := x1.wf hw
    obtain ⟨rest, x2⟩ := groupsLoop_inv (P := Sync s1) (fun _ e h => h.emit hw1 e) (fun _ h => h.high) h (Sync.refl s1)
    exact ⟨rest, x1.trans x2⟩

theorem playComposition_spec (st : St) (tracks : List (Instr × List SBar)) (chans : Option (List Int)) (bpm : Int)
    (r : St × Option Int) (h : playComposition st tracks chans bpm = .ok r) (hw : WF st) :
    ∃ rest, Ext st r.1 ((List.zip (List.range tracks.length) tracks).map (announce (compChans chans tracks.length)) ++ rest) := by
  obtain ⟨rest, x1⟩ := playTracks_spec _ tracks _ bpm r h hw.high
  exact ⟨rest, x1.of_high⟩

example : program (.named "Violin".toList) = 40 ∧ program (.named "no such".toList) = 1 ∧ program (.nr 42) = 42 ∧ program .plain = 1 := by
  decide +kernel

def c4 : Note := ⟨"C".toList, 4, 1, 64⟩
def e4 : Note := ⟨"E".toList, 4, 2, 64⟩
def halves : SBar := ⟨1, [⟨0, 2, some [c4], none⟩, ⟨1/2, 2, some [c4], none⟩]⟩
def quarters : SBar := ⟨1, [⟨0, 4, some [e4], none⟩, ⟨1/4, 4, some [e4], none⟩, ⟨1/2, 4, some [e4], none⟩, ⟨3/4, 4, some [e4], none⟩]⟩

/-- two half notes against four quarters: the half note is started again after one quarter while it is still sounding
    (known finding C18-parallel-scheduler; `parallel:unequal` in the harness runs these rhythms on the implementation,
    its E-4 on channel 3 at velocity 90) -/
theorem parallel_counterexample :
    (playBars {} [halves, quarters] [1, 2] 120).toOption.map (fun r => (sound [] r.1.hooks, (r.1.hooks.filter (· == .play 60 1 64)).length)) =
      some (none, 4) := by decide +kernel

/-- the same two bars with equal rhythms: the sleeps (one second per half note at 120 bpm) and the tempo returned are right;
    the replay still answers `none`, because both voices play the same note on the same channel -/
example : (playBars {} [halves, halves] [1, 2] 120).toOption.map (fun r => (sound [] r.1.hooks, slept r.1.hooks, r.2)) =
    some (none, [1, 1], some 120) := by decide +kernel

end Mingus.Props.C18
