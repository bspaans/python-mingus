import Mingus.Lemmas.Intervals
/-
  C02 — named interval constructors land on the exact letter and semitone distance.
  Unbounded in the input's accidentals (any number, any order).
-/
namespace Mingus.Props.C02
open Mingus Mingus.Notes Mingus.Keys Mingus.Intervals

/-- Spec: what "does not mix sharps with flats and carries at most six accidentals" means. -/
def Unmixed6 (r : Str) : Prop :=
  (r.tail.all (· == '#') = true ∨ r.tail.all (· == 'b') = true) ∧ r.tail.length ≤ 6

/-- the table is the defining (interval number, semitone) table of the named intervals:
    second = next letter … seventh = six letters up -/
theorem ctorTable_is_definition :
    ctorTable.map (fun r => (r.2.1, r.2.2)) =
      [(1, 1), (1, 2), (2, 3), (2, 4), (3, 4), (3, 5), (4, 6), (4, 7), (5, 8), (5, 9), (6, 10), (6, 11)] := by
  decide

theorem unmixed6_rep (l : Char) (w : Int) (hw : -6 ≤ w ∧ w ≤ 6) : Unmixed6 (rep l w) := by
  unfold Unmixed6 rep
  split <;> simp <;> omega

theorem ctor_spec (step : Nat) (hstep : step < 7) (semis : Int) (hs : 0 ≤ semis ∧ semis < 12)
    (l : Char) (t : Str) (hv : valid (l :: t) = true) :
    ∃ r, ctor step semis (l :: t) = .ok r ∧ valid r = true ∧ r.head? = some (letterUp l step) ∧
      pc r = (pc (l :: t) + semis) % 12 ∧ Unmixed6 r := by
  obtain ⟨w, hc, hw1, hw2, hp⟩ := ctor_closed step hstep semis hs (Scales.good_of_valid l t hv)
  exact ⟨_, hc, valid_rep (letterUp_isLetter l step) w, rfl, hp, unmixed6_rep _ _ ⟨hw1, hw2⟩⟩

theorem named_ctor_spec : ∀ r ∈ ctorTable, ∀ (l : Char) (t : Str), valid (l :: t) = true →
    ∃ res, ctor r.2.1 r.2.2 (l :: t) = .ok res ∧ valid res = true ∧ res.head? = some (letterUp l r.2.1) ∧
      pc res = (pc (l :: t) + r.2.2) % 12 ∧ Unmixed6 res := by
  intro r hr l t hv
  have h := ctorTable_ranges r hr
  exact ctor_spec r.2.1 h.2.1 r.2.2 h.2.2 l t hv

theorem unison_spec (l : Char) (t : Str) (hv : valid (l :: t) = true) :
    majorUnison (l :: t) = .ok (l :: t) ∧
    (∃ r, minorUnison (l :: t) = .ok r ∧ valid r = true ∧ r.head? = some l ∧ pc r = (pc (l :: t) - 1) % 12) ∧
    (∃ r, augmentedUnison (l :: t) = .ok r ∧ valid r = true ∧ r.head? = some l ∧ pc r = (pc (l :: t) + 1) % 12) := by
  have hg := Scales.good_of_valid l t hv
  exact ⟨rfl, ⟨_, rfl, hg.diminish⟩, ⟨_, rfl, hg.augment⟩⟩

/-- full-strength clause for the unisons (kept visible; false of the code, see the counterexample) -/
def C02_unison_full : Prop :=
  ∀ (l : Char) (t : Str), valid (l :: t) = true →
    ∀ r, (majorUnison (l :: t) = .ok r ∨ minorUnison (l :: t) = .ok r ∨ augmentedUnison (l :: t) = .ok r) → Unmixed6 r

/-- proved part: canonical input with at most five accidentals -/
theorem unison_unmixed_partial (l : Char) (hl : isLetter l = true) (v : Int) (hv : -5 ≤ v ∧ v ≤ 5) :
    ∀ r, (majorUnison (rep l v) = .ok r ∨ minorUnison (rep l v) = .ok r ∨ augmentedUnison (rep l v) = .ok r) →
      Unmixed6 r := by
  intro r h
  rcases h with h | h | h <;> cases h
  · exact unmixed6_rep l v (by omega)
  · rw [diminish_rep l (letter_ne_sharp hl)]; exact unmixed6_rep l _ (by omega)
  · rw [augment_rep l (letter_ne_b hl)]; exact unmixed6_rep l _ (by omega)

/-- the known finding: the identity interval hands a mixed name straight back -/
theorem unison_counterexample : ¬ C02_unison_full := by
  intro h
  have := h 'C' ['#', 'b'] (by decide) ['C', '#', 'b'] (Or.inl rfl)
  revert this; unfold Unmixed6; decide

theorem measure_spec (a b : Str) (ha : valid a = true) (hb : valid b = true) :
    measure a b = .ok ((pc b - pc a) % 12) ∧ 0 ≤ (pc b - pc a) % 12 ∧ (pc b - pc a) % 12 < 12 := by
  rw [measure_valid a b ha hb, measureP_eq]; exact ⟨rfl, by omega⟩

theorem consonance_spec (a b : Str) (f : Bool) (ha : valid a = true) (hb : valid b = true) :
    let m := (pc b - pc a) % 12
    isPerfectConsonant a b f = .ok (m == 0 || m == 7 || (f && m == 5)) ∧
    isImperfectConsonant a b = .ok (m == 3 || m == 4 || m == 8 || m == 9) ∧
    isConsonant a b f = .ok ((m == 0 || m == 7 || (f && m == 5)) || (m == 3 || m == 4 || m == 8 || m == 9)) ∧
    isDissonant a b f = .ok (!((m == 0 || m == 7 || (!f && m == 5)) || (m == 3 || m == 4 || m == 8 || m == 9))) := by
  have hm := (measure_spec a b ha hb).1
  intro m
  simp only [isDissonant, isConsonant, isPerfectConsonant, isImperfectConsonant, hm, ok_bind, pure_ok]
  refine ⟨rfl, rfl, ?_, ?_⟩
  · cases (m == 0 || m == 7 || (f && m == 5)) <;> rfl
  · cases (m == 0 || m == 7 || (!f && m == 5)) <;> rfl

-- in the first two the `> 6` normalisation of `normAcc` fires (10 and 7 sharps to go become 2 and 5 flats)
example : minorSeventh "Cb".toList = .ok "Bbb".toList := by decide +kernel
example : majorSeventh "Cbbbbb".toList = .ok "Bbbbbb".toList := by decide +kernel
example : majorThird "C#b#b##".toList = .ok "E##".toList := by decide +kernel
example : measure "D".toList "C".toList = .ok 10 := by decide +kernel

end Mingus.Props.C02
