import Mingus.Props.C20Decode
/-
  C20 — a single note: `from_Note` decodes to the note, also when the note carries a (string, fret) position
  (`fromNotePinned`).  `fromNote_ok` says what the search draws; searched or pinned, the drawing is `drawNote`, read back by
  `readCell_note`.
-/
namespace Mingus.Props.C20
open Mingus Mingus.Tun Mingus.Tab Mingus.Containers

theorem lookup_singleton (s : Nat) (f : Int) (i : Nat) : lookup [(s, f)] i = if i = s then some f else none := by
  by_cases h : i = s
  · subst h; simp [lookup]
  · simp [lookup, h, Ne.symm h]

theorem drawNote_eq (result : List Line) (s : Nat) (f : Int) (w : Int) :
    drawNote result s f w = (appendSegs result fun i => colCell (lookup [(s, f)] i) w).reverse := by
  unfold drawNote appendSegs
  rw [← zip_range_map]
  congr 1
  refine List.map_congr_left fun p _ => ?_
  by_cases h : p.1 = s <;> simp [lookup_singleton, colCell, h, List.append_assoc]

theorem readCell_note (s : Nat) (f : Int) (w : Int) (hf : 0 ≤ f) (s' : Nat) (fr : Int) :
    readCell (colCell (lookup [(s, f)] s') w) = some fr ↔ (s' = s ∧ fr = f) := by
  rw [readCell_colCell _ _ fun fr h => by have := lookup_mem _ _ _ h; simp_all, lookup_iff _ (by simp)]
  simp

/-- the fold is the search of `from_Note`: it keeps a pair with the lowest fret -/
theorem lowest_spec (l : List (Nat × Option Int)) (best : Int × Option (Nat × Int))
    (hbest : l.foldl (fun (acc : Int × Option (Nat × Int)) (sf : Nat × Option Int) =>
      match sf.2 with
      | some f => if f < acc.1 then (f, some (sf.1, f)) else acc
      | none => acc) (1000, none) = best) :
    (∀ x ∈ l, ∀ d, x.2 = some d → best.1 ≤ d) ∧ ∀ s f, best.2 = some (s, f) → best.1 = f ∧ (s, some f) ∈ l := by
  subst hbest
  refine foldl_inv _ (fun (acc : Int × Option (Nat × Int)) seen => (∀ x ∈ seen, ∀ d, x.2 = some d → acc.1 ≤ d) ∧
    ∀ s f, acc.2 = some (s, f) → acc.1 = f ∧ (s, some f) ∈ seen) l (1000, none) (by simp) ?_
  rintro acc ⟨i, o⟩ _ seen ⟨i1, i2⟩
  have keep : ∀ s f, acc.2 = some (s, f) → acc.1 = f ∧ (s, some f) ∈ seen ++ [(i, o)] :=
    fun s f hsf => ⟨(i2 s f hsf).1, List.mem_append_left _ (i2 s f hsf).2⟩
  simp only [List.forall_mem_append, List.forall_mem_singleton]
  cases o with
  | none => exact ⟨⟨i1, by simp⟩, keep⟩
  | some d0 =>
    by_cases hlt : d0 < acc.1
    · simp only [hlt, if_true]
      exact ⟨⟨fun x hx d hd => by have := i1 x hx d hd; omega, by simp⟩, fun s f hsf => by cases hsf; exact ⟨rfl, by simp⟩⟩
    · simp only [hlt, if_false]
      exact ⟨⟨i1, fun d hd => by cases hd; omega⟩, keep⟩

theorem fromNote_ok (t : Tuning) (note : Note) (width : Int) (ls : List Line) (h : fromNote t note width = .ok ls) :
    ∃ start s f w, beginTrack t 2 = .ok start ∧ fretOn t note s = some f ∧ (∀ s' f', fretOn t note s' = some f' → f ≤ f') ∧
      4 ≤ w ∧ ls = drawNote start s f w := by
  simp only [fromNote, bind_eq_ok] at h
  obtain ⟨start, hs, frets, hf, h⟩ := h
  generalize hbest : List.foldl _ _ _ = best at h
  obtain ⟨h1, h2⟩ := lowest_spec _ best hbest
  cases hb : best.2 with
  | none => simp [hb] at h
  | some sf =>
    obtain ⟨s, f⟩ := sf
    obtain ⟨rfl, hm⟩ := h2 s f hb
    rw [mem_zip_range] at hm
    simp only [hb, pure_eq_ok] at h
    exact ⟨start, s, best.1, _, hs, (fretOn_eq_some t note frets hf s _).2 hm, fun s' f' hs' =>
      h1 (s', some f') ((mem_zip_range _ _ _).2 ((fretOn_eq_some t note frets hf s' f').1 hs')) f' rfl,
      Int.le_max_left 4 _, h.symm⟩

/-- **from_Note decodes**: the drawing is some leading columns `start` (the labels: `fromNote_ok` says they are
    `begin_track`'s) followed by one cell per string; exactly one cell holds a number; that string sounds the note at that
    fret; and no string sounds it at a lower fret -/
theorem fromNote_decode (t : Tuning) (note : Note) (width : Int) (ls : List Line) (h : fromNote t note width = .ok ls) :
    ∃ (start : List Line) (cells : Nat → Line) (s : Nat) (f : Int),
      ls.reverse = appendSegs start cells ∧ fretOn t note s = some f ∧
      (∀ s' f', fretOn t note s' = some f' → f ≤ f') ∧
      ∀ s' fr, readCell (cells s') = some fr ↔ (s' = s ∧ fr = f) := by
  obtain ⟨start, s, f, w, _, hf, hmin, _, rfl⟩ := fromNote_ok t note width ls h
  exact ⟨start, _, s, f, by rw [drawNote_eq, List.reverse_reverse], hf, hmin,
    readCell_note s f _ (fretOn_range t note s f hf).1⟩

/-- **from_Note**: all string lines have the same length (label column + `||--` + the note column + `|`), for every
    single-string tuning whose labels fit the label column, every playable note and every width -/
theorem fromNote_equal_lengths (t : Tuning) (note : Note) (width : Int) (names : List Str) (ls : List Line)
    (hl : labels t = .ok names) (hfit : ∀ x ∈ names, (x.length : Int) + 1 ≤ (maxStr names).length + 3)
    (h : fromNote t note width = .ok ls) :
    ∃ L, ∀ ln ∈ ls, ln.length = L := by
  obtain ⟨start, s, f, w, hs, hf, _, hw, rfl⟩ := fromNote_ok t note width ls h
  have hf24 := fretOn_range t note s f hf
  -- a fret within 0..24 has at most two digits, and the column is at least four wide
  have hshort := showInt_short f.toNat (by simp; omega)
  rw [Int.toNat_of_nonneg hf24.1] at hshort
  obtain ⟨H, hH⟩ := beginTrack_equal t 2 names start hl hfit hs
  refine ⟨H + (w.toNat + 1), fun ln hln => ?_⟩
  rw [drawNote_eq, List.mem_reverse] at hln
  refine appendSegs_width start _ _ _ hH (fun i => colCell_length _ _ fun fr hfr => ?_) ln hln
  have hfr := lookup_mem _ _ _ hfr
  simp only [List.mem_singleton, Prod.mk.injEq] at hfr
  rw [hfr.2]
  omega

/-- **a pinned note is drawn where it is pinned**: when the tuning sounds exactly this note at (string, fret), the drawing
    holds that fret on that string and nothing else, and the position is on the instrument (string in the tuning, fret
    in 0..24) -/
theorem fromNotePinned_decode (t : Tuning) (note : Note) (ps pf : Int) (width : Int) (n : Note) (p : Int)
    (hn : getNote t ps pf 24 = .ok n) (hni : n.toInt = .ok p) (hmi : note.toInt = .ok p)
    (ls : List Line) (h : fromNotePinned t note ps pf width = .ok ls) :
    ∃ (start : List Line) (cells : Nat → Line),
      ls.reverse = appendSegs start cells ∧ 0 ≤ ps ∧ ps < t.length ∧ 0 ≤ pf ∧ pf ≤ 24 ∧
      ∀ s' fr, readCell (cells s') = some fr ↔ (s' = ps.toNat ∧ fr = pf) := by
  obtain ⟨⟨h1, h2⟩, h3, h4⟩ := getNote_ok_range t ps pf 24 n hn
  simp only [fromNotePinned, hn, hni, hmi, bind_eq_ok, Except.ok.injEq, exists_eq_left', if_true, pure_eq_ok] at h
  obtain ⟨start, _, rfl⟩ := h
  exact ⟨start, _, by rw [drawNote_eq, List.reverse_reverse], h1, h2, h3, h4, readCell_note ps.toNat pf _ h3⟩

/-- … and the pinned position sounds the note: the open string's pitch plus the fret is the note's pitch -/
theorem pinned_position_sounds (t : Tuning) (ps pf : Int) (n : Note) (s : TString) (p0 : Int)
    (hn : getNote t ps pf 24 = .ok n) (hget : t[ps.toNat]? = some s) (hp : basePitch s = some p0) :
    n.toInt = .ok (p0 + pf) := by
  obtain ⟨h1, h2⟩ := getNote_ok_range t ps pf 24 n hn
  obtain ⟨n', h3, h4⟩ := getNote_spec t ps pf 24 s p0 h1 h2 hget hp
  rw [hn] at h3
  cases h3
  exact h4

/-- a position that does NOT sound the note is ignored: the search decides, as for a note without attributes -/
theorem fromNotePinned_fallback (t : Tuning) (note : Note) (ps pf : Int) (width : Int) (n : Note) (p q : Int)
    (hn : getNote t ps pf 24 = .ok n) (hni : n.toInt = .ok p) (hmi : note.toInt = .ok q) (hne : p ≠ q)
    (hb : ∃ r, beginTrack t 2 = .ok r) :
    fromNotePinned t note ps pf width = fromNote t note width := by
  obtain ⟨r, hr⟩ := hb
  unfold fromNotePinned
  simp [hr, hn, hni, hmi, hne]

example : fromNotePinned defaultTuning ⟨lit "G", 2, 1, 64⟩ 0 3 20 = .ok
    ([" e' ||-------------|", " b  ||-------------|", " g  ||-------------|", " d  ||-------------|", " A  ||-------------|",
      " E  ||-------3-----|"].map String.toList) := by decide +kernel
example : fromNote defaultTuning ⟨lit "C", 3, 1, 64⟩ 20 = .ok
    ([" e' ||-------------|", " b  ||-------------|", " g  ||-------------|", " d  ||-------------|", " A  ||-------3-----|",
      " E  ||-------------|"].map String.toList) := by decide +kernel
example : fromNotePinned defaultTuning ⟨lit "C", 3, 1, 64⟩ 0 0 20 = fromNote defaultTuning ⟨lit "C", 3, 1, 64⟩ 20 := by
  decide +kernel

end Mingus.Props.C20
