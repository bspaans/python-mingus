import Mingus.Props.C11
import Mingus.Props.C12
/-
  C12 — the container built from an interval shorthand (`from_interval_shorthand`, `from_interval`).

  `fromInterval_members` is about whatever note `Note.transpose` returns; `fromInterval_spec` adds C11's `transpose_exact`:
  canonical names with up to four accidentals, shorthands of size 0..11, every octave (also 0 and below), both directions.
-/
namespace Mingus.Props.C12
open Mingus Mingus.Notes Mingus.Containers Mingus.Containers.NC Mingus.Intervals

theorem fromInterval_members (start n : Note) (sh : Str) (up : Bool) (ht : start.transpose sh up = .ok n) :
    ∃ r, fromIntervalShorthand start sh up = .ok r ∧ Inv r ∧
      ∀ x, x ∈ r ↔ x = start ∨ (x = n ∧ n.pitch ≠ start.pitch) := by
  have h1 : Inv [start] := List.pairwise_singleton ..
  refine ⟨addNoteObj [start] n, ?_, addNoteObj_inv _ _ h1, fun x => ?_⟩
  · simp [fromIntervalShorthand, ht, addNotes, addNote, addNoteObj_nil]
  · simp [addNoteObj_mem _ n h1, eq_comm]

theorem fromInterval_spec (l : Char) (hl : l ∈ Keys.baseScale) (v : Int) (hv : v ∈ C11.accRange) (sh : Str)
    (hsh : sh ∈ C03.shorthands) (hsize : 0 ≤ C11.sizeOf sh ∧ C11.sizeOf sh ≤ 11) (o : Int) (up : Bool) :
    ∃ r n, fromIntervalShorthand (Note.mk (rep l v) o 1 64) sh up = .ok r ∧ Inv r ∧
      n.pitch = (Note.mk (rep l v) o 1 64).pitch + (if up then C11.sizeOf sh else - C11.sizeOf sh) ∧
      n.name.head? = some (if up then letterUp l (C11.degOf sh) else C11.letterDown l (C11.degOf sh)) ∧
      ∀ x, x ∈ r ↔ x = Note.mk (rep l v) o 1 64 ∨ (x = n ∧ C11.sizeOf sh ≠ 0) := by
  obtain ⟨n, ht, hp, hn, -⟩ := C11.transpose_exact l hl v hv sh hsh hsize ⟨rep l v, o, 1, 64⟩ rfl up
  obtain ⟨r, h1, h2, h3⟩ := fromInterval_members _ n sh up ht
  refine ⟨r, n, h1, h2, hp, hn, fun x => ?_⟩
  have : n.pitch ≠ (Note.mk (rep l v) o 1 64).pitch ↔ C11.sizeOf sh ≠ 0 := by rw [hp]; split <;> omega
  rw [h3 x, this]

example : fromIntervalShorthand ⟨lit "C", 0, 1, 64⟩ (lit "3") false = .ok [⟨lit "Ab", -1, 1, 64⟩, ⟨lit "C", 0, 1, 64⟩] := by
  decide +kernel
example : fromIntervalShorthand ⟨lit "B", 4, 1, 64⟩ (lit "5") true = .ok [⟨lit "B", 4, 1, 64⟩, ⟨lit "F#", 5, 1, 64⟩] := by
  decide +kernel

end Mingus.Props.C12
