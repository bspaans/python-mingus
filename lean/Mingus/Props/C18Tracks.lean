import Mingus.Props.C18Par
/-
  C18 — `play_Tracks` / `play_Composition` inside the scheduler's working domain: at every bar index the bars that sound
  together must satisfy the hypotheses of `playBars_equal_rhythm_tempo`; the trace is then the announcements followed by the
  groups' traces, the tempo carried from group to group.
-/
namespace Mingus.Props.C18
open Mingus Mingus.Seq Mingus.Containers

def groupAt (tracks : List (Instr × List SBar)) (i : Nat) : List SBar := tracks.map fun t => t.2.getD i default

/-- the hypotheses `h`, `hdue`, `hfull` of `playBars_equal_rhythm_tempo` for one group -/
structure GroupOKT (bars : List SBar) (chans : List Int) (rh : List (Rat × Rat)) : Prop where
  eq : EqualRhythmT bars chans rh
  due : ∀ i, i < rh.length → (rh.getD i (0, 1)).1 ≤ tickAt rh i ∧ tickAt rh i < (bars.headD default).length
  full : ¬ (tickAt rh rh.length < (bars.headD default).length)

def groupTraceT (bars : List SBar) (bpm : Int) (rh : List (Rat × Rat)) : List SEv :=
  (List.range rh.length).flatMap fun j => colTrace bars (bpmBefore bars bpm (j + 1)) (rh.getD j (0, 1)).2 j

def bpmAfter (tracks : List (Instr × List SBar)) (rhs : Nat → List (Rat × Rat)) : Int → List Nat → Int
  | b, [] => b
  | b, i :: is => bpmAfter tracks rhs (bpmBefore (groupAt tracks i) b (rhs i).length) is

def tracesT (tracks : List (Instr × List SBar)) (rhs : Nat → List (Rat × Rat)) : Int → List Nat → List SEv
  | _, [] => []
  | b, i :: is => groupTraceT (groupAt tracks i) b (rhs i) ++ tracesT tracks rhs (bpmBefore (groupAt tracks i) b (rhs i).length) is

theorem mapM_bars (tracks : List (Instr × List SBar)) (i : Nat) (h : ∀ t ∈ tracks, i < t.2.length) :
    tracks.mapM (fun t => match t.2[i]? with | some b => (pure b : Except Err SBar) | none => .error .index) =
      .ok (groupAt tracks i) :=
  mapM_eq_pure fun t ht => by simp [h t ht]

theorem groupsLoop_equal_tempo (tracks : List (Instr × List SBar)) (chans : List Int) (rhs : Nat → List (Rat × Rat)) (idx : List Nat) :
    (∀ i ∈ idx, (∀ t ∈ tracks, i < t.2.length) ∧ GroupOKT (groupAt tracks i) chans (rhs i) ∧
      ∀ n x, (entryAt (groupAt tracks i) n x).bpm ≠ some 0) →
    ∀ (bpm : Int), bpm ≠ 0 → ∀ (st : St), WF st →
      ∃ st', groupsLoop tracks chans idx st bpm = .ok (st', some (bpmAfter tracks rhs bpm idx)) ∧
        Ext st st' (tracesT tracks rhs bpm idx) := by
  induction idx with
  | nil => intro _ bpm _ st _; exact ⟨st, rfl, Ext.refl st⟩
  | cons i is ih =>
    intro h bpm hbpm st hw
    obtain ⟨⟨hlen, hok, hz⟩, ht⟩ := List.forall_mem_cons.1 h
    have hnz := bpmBefore_ne_zero (groupAt tracks i) bpm hbpm hz
    obtain ⟨s1, e1, x1⟩ := playBars_equal_rhythm_tempo hok.eq st hw bpm hnz hok.due hok.full
    obtain ⟨s2, e2, x2⟩ := ih ht _ (hnz (rhs i).length) s1 (x1.wf hw)
    exact ⟨s2, ok_then (mapM_bars tracks i hlen) (ok_then e1 e2), by simpa [tracesT, groupTraceT] using x1.trans x2⟩

theorem announce_fold_ok (chans : List Int) (l : List (Nat × Instr × List SBar)) (h : ∀ x ∈ l, x.1 < chans.length) :
    ∀ (st : St), ∃ st', l.foldlM (fun s (x : Nat × Instr × List SBar) =>
      match chans[x.1]? with
      | none => (.error .index : Except Err St)
      | some ch => pure (setInstrument s ch (program x.2.1) 0)) st = .ok st' :=
  foldlM_ok _ l fun st x hx => ⟨_, by rw [List.getElem?_eq_getElem (h x hx)]; rfl⟩

/-- `play_Tracks` inside the working domain; no tempo 0 in the groups that are played -/
theorem playTracks_domain (st : St) (hw : WF st) (t0 : Instr × List SBar) (ts : List (Instr × List SBar))
    (chans : List Int) (bpm : Int) (hbpm : bpm ≠ 0) (rhs : Nat → List (Rat × Rat))
    (hch : (t0 :: ts).length ≤ chans.length)
    (hgroups : ∀ i, i < t0.2.length → (∀ t ∈ t0 :: ts, i < t.2.length) ∧ GroupOKT (groupAt (t0 :: ts) i) chans (rhs i) ∧
      ∀ n x, (entryAt (groupAt (t0 :: ts) i) n x).bpm ≠ some 0) :
    ∃ st', playTracks st (t0 :: ts) chans bpm = .ok (st', some (bpmAfter (t0 :: ts) rhs bpm (List.range t0.2.length))) ∧
      Ext st st' ((List.zip (List.range (t0 :: ts).length) (t0 :: ts)).map (announce chans) ++
        tracesT (t0 :: ts) rhs bpm (List.range t0.2.length)) := by
  obtain ⟨s1, e1⟩ := announce_fold_ok chans (List.zip (List.range (t0 :: ts).length) (t0 :: ts))
    (fun x hx => Nat.lt_of_lt_of_le (List.mem_range.1 (List.of_mem_zip hx).1) hch) (notifyHigh st)
  have x1 := (announce_fold chans _ _ _ e1 hw.high).of_high
  obtain ⟨s2, e2, x2⟩ := groupsLoop_equal_tempo (t0 :: ts) chans rhs (List.range t0.2.length)
    (fun i hi => hgroups i (List.mem_range.1 hi)) bpm hbpm s1 (x1.wf hw)
  exact ⟨s2, ok_then e1 e2, x1.trans x2⟩

/-- **play_Tracks inside the working domain**: one instrument announcement per track, then group after group the column
    traces; the tempo in force at the end is returned -/
theorem playTracks_equal_rhythm_tempo (st : St) (hw : WF st) (t0 : Instr × List SBar) (ts : List (Instr × List SBar))
    (chans : List Int) (bpm : Int) (hbpm : bpm ≠ 0) (rhs : Nat → List (Rat × Rat))
    (hz : ∀ i n x, (entryAt (groupAt (t0 :: ts) i) n x).bpm ≠ some 0)
    (hch : (t0 :: ts).length ≤ chans.length)
    (hgroups : ∀ i, i < t0.2.length → (∀ t ∈ t0 :: ts, i < t.2.length) ∧ GroupOKT (groupAt (t0 :: ts) i) chans (rhs i)) :
    ∃ st', playTracks st (t0 :: ts) chans bpm = .ok (st', some (bpmAfter (t0 :: ts) rhs bpm (List.range t0.2.length))) ∧
      Ext st st' ((List.zip (List.range (t0 :: ts).length) (t0 :: ts)).map (announce chans) ++
        tracesT (t0 :: ts) rhs bpm (List.range t0.2.length)) :=
  playTracks_domain st hw t0 ts chans bpm hbpm rhs hch fun i hi => ⟨(hgroups i hi).1, (hgroups i hi).2, hz i⟩

theorem playComposition_equal_rhythm_tempo (st : St) (hw : WF st) (t0 : Instr × List SBar) (ts : List (Instr × List SBar))
    (chans : Option (List Int)) (bpm : Int) (hbpm : bpm ≠ 0) (rhs : Nat → List (Rat × Rat))
    (hz : ∀ i n x, (entryAt (groupAt (t0 :: ts) i) n x).bpm ≠ some 0)
    (hch : (t0 :: ts).length ≤ (compChans chans (t0 :: ts).length).length)
    (hgroups : ∀ i, i < t0.2.length → (∀ t ∈ t0 :: ts, i < t.2.length) ∧
      GroupOKT (groupAt (t0 :: ts) i) (compChans chans (t0 :: ts).length) (rhs i)) :
    ∃ st', playComposition st (t0 :: ts) chans bpm = .ok (st', some (bpmAfter (t0 :: ts) rhs bpm (List.range t0.2.length))) ∧
      Ext st st' ((List.zip (List.range (t0 :: ts).length) (t0 :: ts)).map (announce (compChans chans (t0 :: ts).length)) ++
        tracesT (t0 :: ts) rhs bpm (List.range t0.2.length)) := by
  obtain ⟨s1, e1, x1⟩ := playTracks_equal_rhythm_tempo (notifyHigh st) hw.high t0 ts _ bpm hbpm rhs hz hch hgroups
  exact ⟨s1, e1, x1.of_high⟩

example : (playComposition {} [(.plain, [t1, v1]), (.nr 40, [t2, v2])] none 120).toOption.map (fun r => (r.1.hooks, r.2)) =
    some ([SEv.instr 1 1 0, SEv.instr 2 40 0] ++
      tracesT [(.plain, [t1, v1]), (.nr 40, [t2, v2])] (fun _ => [(0, 4), (1/4, 4), (1/2, 4)]) 120 [0, 1], some 90) := by
  decide +kernel

structure GroupOK (bars : List SBar) (chans : List Int) (rh : List (Rat × Rat)) : Prop where
  eq : EqualRhythm bars chans rh
  due : ∀ i, i < rh.length → (rh.getD i (0, 1)).1 ≤ tickAt rh i ∧ tickAt rh i < (bars.headD default).length
  full : ¬ (tickAt rh rh.length < (bars.headD default).length)

def groupTrace (bars : List SBar) (bpm : Int) (rh : List (Rat × Rat)) : List SEv :=
  (List.range rh.length).flatMap fun j => colTrace bars bpm (rh.getD j (0, 1)).2 j

theorem GroupOK.toT {bars chans rh} (h : GroupOK bars chans rh) : GroupOKT bars chans rh := ⟨h.eq.toT, h.due, h.full⟩

theorem tracesT_plain (tracks : List (Instr × List SBar)) (rhs : Nat → List (Rat × Rat)) (bpm : Int) (idx : List Nat)
    (h : ∀ i ∈ idx, ∀ n x, (entryAt (groupAt tracks i) n x).bpm = none) :
    bpmAfter tracks rhs bpm idx = bpm ∧
      tracesT tracks rhs bpm idx = idx.flatMap fun i => groupTrace (groupAt tracks i) bpm (rhs i) := by
  induction idx with
  | nil => exact ⟨rfl, rfl⟩
  | cons i is ih =>
    obtain ⟨hi, ht⟩ := List.forall_mem_cons.1 h
    simpa [bpmAfter, tracesT, groupTraceT, groupTrace, bpmBefore_plain (groupAt tracks i) bpm hi] using ih ht

theorem playTracks_equal_rhythm (st : St) (hw : WF st) (t0 : Instr × List SBar) (ts : List (Instr × List SBar))
    (chans : List Int) (bpm : Int) (hbpm : bpm ≠ 0) (rhs : Nat → List (Rat × Rat))
    (hch : (t0 :: ts).length ≤ chans.length)
    (hgroups : ∀ i, i < t0.2.length → (∀ t ∈ t0 :: ts, i < t.2.length) ∧ GroupOK (groupAt (t0 :: ts) i) chans (rhs i)) :
    ∃ st', playTracks st (t0 :: ts) chans bpm = .ok (st', some bpm) ∧
      Ext st st' ((List.zip (List.range (t0 :: ts).length) (t0 :: ts)).map (announce chans) ++
        (List.range t0.2.length).flatMap fun i => groupTrace (groupAt (t0 :: ts) i) bpm (rhs i)) := by
  have hp := tracesT_plain (t0 :: ts) rhs bpm (List.range t0.2.length) fun i hi => (hgroups i (List.mem_range.1 hi)).2.eq.bpm_none
  have := playTracks_domain st hw t0 ts chans bpm hbpm rhs hch fun i hi =>
    ⟨(hgroups i hi).1, (hgroups i hi).2.toT, fun n x => by simp [(hgroups i hi).2.eq.bpm_none n x]⟩
  rwa [hp.1, hp.2] at this

/-- channels given, or the default 1, 2, … -/
theorem playComposition_equal_rhythm (st : St) (hw : WF st) (t0 : Instr × List SBar) (ts : List (Instr × List SBar))
    (chans : Option (List Int)) (bpm : Int) (hbpm : bpm ≠ 0) (rhs : Nat → List (Rat × Rat))
    (hch : (t0 :: ts).length ≤ (compChans chans (t0 :: ts).length).length)
    (hgroups : ∀ i, i < t0.2.length → (∀ t ∈ t0 :: ts, i < t.2.length) ∧
      GroupOK (groupAt (t0 :: ts) i) (compChans chans (t0 :: ts).length) (rhs i)) :
    ∃ st', playComposition st (t0 :: ts) chans bpm = .ok (st', some bpm) ∧
      Ext st st' ((List.zip (List.range (t0 :: ts).length) (t0 :: ts)).map (announce (compChans chans (t0 :: ts).length)) ++
        (List.range t0.2.length).flatMap fun i => groupTrace (groupAt (t0 :: ts) i) bpm (rhs i)) := by
  obtain ⟨s1, e1, x1⟩ := playTracks_equal_rhythm (notifyHigh st) hw.high t0 ts _ bpm hbpm rhs hch hgroups
  exact ⟨s1, e1, x1.of_high⟩

example : (playComposition {} [(.plain, [v1, v1]), (.nr 40, [v2, v2])] none 120).toOption.map (fun r => (r.1.hooks, r.2)) =
    some ([SEv.instr 1 1 0, SEv.instr 2 40 0] ++
      (List.range 2).flatMap (fun i => groupTrace (groupAt [(.plain, [v1, v1]), (.nr 40, [v2, v2])] i) 120 [(0, 4), (1/4, 4), (1/2, 4)]),
      some 120) := by
  decide +kernel

end Mingus.Props.C18
