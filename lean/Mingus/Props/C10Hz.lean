import Mathlib.Analysis.SpecialFunctions.Log.Base
import Mathlib.Analysis.SpecialFunctions.Pow.Real
import Mathlib.Tactic.Linarith
import Mathlib.Tactic.FieldSimp
/-
  C10, frequency clauses — real-number idealisation of `Note.to_hertz` / `Note.from_hertz`
  (`2 ** (x / 12.0)` and `log(x, 2)` read as the real functions; IEEE rounding is NOT modelled: the float code is tied
  to this idealisation only by the exhaustive run over notes 0..127 × standard pitches × detunes in the harness).
-/
namespace Mingus.Props.C10Hz
open Real

/-- `to_hertz`: `2 ** ((int(note) - 57) / 12.0) * standard_pitch` -/
noncomputable def toHz (n : ℤ) (sp : ℝ) : ℝ := (2 : ℝ) ^ (((n : ℝ) - 57) / 12) * sp
/-- the `value` computed by `from_hertz` -/
noncomputable def fromVal (hz sp : ℝ) : ℝ := (logb 2 (hz * 1024 / sp) + 1 / 24) * 12 + 9
/-- the pitch number `from_hertz` stores: name `int(value) % 12`, octave `int(value / 12) - 6` -/
noncomputable def fromHz (hz sp : ℝ) : ℤ := ⌊fromVal hz sp⌋ - 72

theorem octave_doubles (n : ℤ) (sp : ℝ) : toHz (n + 12) sp = 2 * toHz n sp := by
  unfold toHz
  have : (((n + 12 : ℤ) : ℝ) - 57) / 12 = ((n : ℝ) - 57) / 12 + 1 := by push_cast; ring
  rw [this, rpow_add two_pos, rpow_one]; ring

/-- A-4 (pitch number 57) sits at the chosen standard pitch -/
theorem a4_is_standard (sp : ℝ) : toHz 57 sp = sp := by
  unfold toHz; simp

theorem toHz_pos (n : ℤ) (sp : ℝ) (h : 0 < sp) : 0 < toHz n sp := by
  unfold toHz; exact mul_pos (rpow_pos_of_pos two_pos _) h

/-- the analysed value of a tone `c` cents away from note `n`, under any positive standard pitch -/
theorem fromVal_detuned (n : ℤ) (sp c : ℝ) (h : 0 < sp) :
    fromVal (toHz n sp * (2 : ℝ) ^ (c / 1200)) sp = (n : ℝ) + 72 + 1 / 2 + c / 100 := by
  -- the argument of the logarithm is a power of two
  have e : toHz n sp * (2 : ℝ) ^ (c / 1200) * 1024 / sp = (2 : ℝ) ^ (((n : ℝ) - 57) / 12 + c / 1200 + 10) := by
    rw [rpow_add two_pos, rpow_add two_pos, toHz]
    field_simp
    norm_num
  rw [fromVal, e, logb_rpow two_pos (by norm_num)]
  ring

/-- Hz round trip: a tone up to 40 cents off note `n` is read back as `n`, with a margin of a tenth of a semitone to the
    nearest rounding boundary (`n + 72.1 ≤ value ≤ n + 72.9`) -/
theorem hz_roundtrip (n : ℤ) (sp c : ℝ) (h : 0 < sp) (hc : -40 ≤ c ∧ c ≤ 40) :
    fromHz (toHz n sp * (2 : ℝ) ^ (c / 1200)) sp = n ∧
    (n : ℝ) + 72 + 1 / 10 ≤ fromVal (toHz n sp * (2 : ℝ) ^ (c / 1200)) sp ∧
    fromVal (toHz n sp * (2 : ℝ) ^ (c / 1200)) sp ≤ (n : ℝ) + 72 + 9 / 10 := by
  have hv := fromVal_detuned n sp c h
  refine ⟨?_, by rw [hv]; linarith [hc.1], by rw [hv]; linarith [hc.2]⟩
  unfold fromHz
  rw [hv]
  have : ⌊(n : ℝ) + 72 + 1 / 2 + c / 100⌋ = n + 72 := by
    rw [Int.floor_eq_iff]
    push_cast
    constructor <;> linarith [hc.1, hc.2]
  rw [this]; ring

end Mingus.Props.C10Hz
