import Mingus.Props.C16Spec
import Mingus.Lemmas.Except
/-
  C16 — bars, tracks, repeat counts and the five writers refine the pure specification.
-/
namespace Mingus.Props.C16
open Mingus Mingus.Midi Mingus.Containers

def specEntries (s : S) : List MEntry → List TEv × S
  | [] => ([], s)
  | e :: es => ((specEntry s e).1 ++ (specEntries (specEntry s e).2 es).1, (specEntries (specEntry s e).2 es).2)

theorem specEntries_eq : specEntries = thread specEntry := by
  funext s es; induction es generalizing s <;> simp [specEntries, *]

theorem instr_specEntry (s : S) (e : MEntry) : (specEntry s e).2.instr = s.instr := by
  unfold specEntry; cases e.notes <;> rfl

def meterEv (b : MBar) : Ev := .metaE 88 [b.count.toNat, MT.ilog2 b.unit.toNat, 24, 8]

/-- the key-signature event: position in the circle of fifths − 7 as a signed byte, then the mode flag -/
def keyEv? (key : Str) : Option Ev :=
  match MT.idxOf? (if MT.isLower key then Keys.minorKeys else Keys.majorKeys) key with
  | none => none
  | some i => some (.metaE 89 [if (i : Int) - 7 < 0 then (256 + ((i : Int) - 7)).toNat else ((i : Int) - 7).toNat,
                               if MT.isLower key then 1 else 0])

def keyEv (key : Str) : Ev := (keyEv? key).getD (.metaE 89 [])

theorem keyEv_meta (key : Str) : ∃ d, keyEv key = .metaE 89 d := by
  unfold keyEv keyEv?; split <;> exact ⟨_, rfl⟩

def okBar (b : MBar) : Prop :=
  0 ≤ b.count ∧ b.count < 256 ∧ 1 ≤ b.unit ∧ (keyEv? b.key).isSome = true ∧ ∀ e ∈ b.entries, okEntry e

def specBar (s : S) (b : MBar) : List TEv × S :=
  ([⟨s.delay, meterEv b⟩, ⟨0, keyEv b.key⟩] ++ (specEntries { s with delay := 0 } b.entries).1,
   (specEntries { s with delay := 0 } b.entries).2)

theorem setKey_ok (t : MT) (key : Str) (h : (keyEv? key).isSome = true) : t.setKey key = .ok (t.emit (keyEv key)) := by
  unfold keyEv keyEv? MT.setKey at *
  cases hk : MT.idxOf? (if MT.isLower key then Keys.minorKeys else Keys.majorKeys) key with
  | none => simp [hk] at h
  | some i => simp [hk]

/-- generic in the entries' specification `ses`: `specEntries` here, `specEntriesT` in C16TempoTrack -/
theorem bar_refines_of {ses : S → List TEv × S} (b : MBar) (h1 : 0 ≤ b.count ∧ b.count < 256 ∧ 1 ≤ b.unit)
    (h2 : (keyEv? b.key).isSome = true) (h : Refines okInstr (b.entries.foldlM MT.playEntry) ses) :
    Refines okInstr (·.playBar b) fun s =>
      ([⟨s.delay, meterEv b⟩, ⟨0, keyEv b.key⟩] ++ (ses { s with delay := 0 }).1, (ses { s with delay := 0 }).2) := by
  intro t evs s ⟨r1, r2, r3, r4⟩ hi
  have hm (t0 : MT) : t0.setMeter b.count b.unit = .ok (t0.emit (meterEv b)) := by simp [MT.setMeter, meterEv, h1]
  simp only [MT.playBar, hm, ok_bind, setKey_ok _ b.key h2, ← List.append_assoc]
  exact h _ _ _ (by simp [Rel, MT.emit, MT.setDelta, r1, r2, r3, r4]) hi

theorem bar_refines (b : MBar) (hb : okBar b) : Refines okInstr (·.playBar b) (specBar · b) := by
  obtain ⟨b1, b2, b3, b4, b5⟩ := hb
  exact bar_refines_of (ses := (specEntries · b.entries)) b ⟨b1, b2, b3⟩ b4
    (specEntries_eq ▸ Refines.foldlM fun e he => entry_refines e (b5 e he))

def specBars (s : S) : List MBar → List TEv × S
  | [] => ([], s)
  | b :: bs => ((specBar s b).1 ++ (specBars (specBar s b).2 bs).1, (specBars (specBar s b).2 bs).2)

theorem specBars_eq : specBars = thread specBar := by
  funext s bs; induction bs generalizing s <;> simp [specBars, *]

def okTrack (tr : MTrack) : Prop :=
  (∀ b ∈ tr.bars, okBar b) ∧ (∀ nr, tr.instr = some nr → 0 ≤ nr ∧ nr ≤ 127)

def withInstr (s : S) (tr : MTrack) : S :=
  match tr.instr with
  | some nr => { s with ci := true, instr := nr }
  | none => s

def specTrack (s : S) (tr : MTrack) : List TEv × S :=
  (⟨0, .metaE 3 (MT.asciiBytes tr.name)⟩ :: (specBars (withInstr s tr) tr.bars).1, (specBars (withInstr s tr) tr.bars).2)

theorem okInstr_withInstr {s : S} {tr : MTrack} (hi : okInstr s) (hn : ∀ nr, tr.instr = some nr → 0 ≤ nr ∧ nr ≤ 127) :
    okInstr (withInstr s tr) := by
  unfold withInstr
  cases hti : tr.instr with
  | none => exact hi
  | some nr => exact fun _ => hn nr hti

/-- generic in the bars' specification `sbs`: `specBars` here, `specBarsT` in C16TempoTrack -/
theorem track_refines_of {sbs : S → List TEv × S} (tr : MTrack) (hn : ∀ nr, tr.instr = some nr → 0 ≤ nr ∧ nr ≤ 127)
    (h : Refines okInstr (tr.bars.foldlM MT.playBar) sbs) :
    Refines okInstr (·.playTrack tr) fun s =>
      (⟨0, .metaE 3 (MT.asciiBytes tr.name)⟩ :: (sbs (withInstr s tr)).1, (sbs (withInstr s tr)).2) := by
  intro t evs s ⟨r1, r2, r3, r4⟩ hi
  unfold MT.playTrack
  rw [List.append_cons]
  exact h _ _ _ (by unfold withInstr; cases tr.instr <;> simp [Rel, r1, r2, r3, r4]) (okInstr_withInstr hi hn)

theorem track_refines (tr : MTrack) (ht : okTrack tr) : Refines okInstr (·.playTrack tr) (specTrack · tr) :=
  track_refines_of (sbs := (specBars · tr.bars)) tr ht.2
    (specBars_eq ▸ Refines.foldlM fun b hb => bar_refines b (ht.1 b hb))

def specPasses (f : S → List TEv × S) : Nat → S → List TEv × S
  | 0, s => ([], s)
  | k + 1, s => ((f s).1 ++ (specPasses f k (f s).2).1, (specPasses f k (f s).2).2)

theorem specPasses_eq (f : S → List TEv × S) (k : Nat) (s : S) :
    specPasses f k s = thread (fun s _ => f s) s (List.replicate k ()) := by
  induction k generalizing s <;> simp [specPasses, List.replicate_succ, *]

theorem repeatM_eq (play : MT → Except Err MT) (k : Nat) (t : MT) :
    repeatM play k t = (List.replicate k ()).foldlM (fun t _ => play t) t := by
  induction k generalizing t with
  | zero => rfl
  | succ k ih => simp only [Midi.repeatM, List.replicate_succ, List.foldlM_cons, ih]

theorem Refines.repeatM {I : S → Prop} {play : MT → Except Err MT} {f : S → List TEv × S} (h : Refines I play f)
    (k : Nat) : Refines I (Midi.repeatM play k) (specPasses f k) := by
  have := Refines.foldlM (play := fun t _ => play t) (f := fun s _ => f s) (xs := List.replicate k ()) fun _ _ => h
  simpa only [← repeatM_eq, ← specPasses_eq] using this

def tempoEv (bpm : Int) : TEv := ⟨0, .metaE 81 (be 3 ((60000000 : Int) / bpm).toNat)⟩
def okBpm (bpm : Int) : Prop := 4 ≤ bpm

def s0 : S := ⟨0, false, 1⟩
theorem okInstr_s0 : okInstr s0 := by intro h; simp [s0] at h

/-- microseconds per quarter note fit the three bytes of the tempo event -/
theorem mpqn_range (b : Int) (h : okBpm b) : 0 ≤ (60000000 : Int) / b ∧ (60000000 : Int) / b < 16777216 := by
  unfold okBpm at h
  exact ⟨Int.ediv_nonneg (by omega) (by omega), Int.ediv_lt_of_lt_mul (by omega) (by omega)⟩

theorem setTempo_ok (t : MT) (b : Int) (h : okBpm b) :
    t.setTempo b = .ok (t.emit (.metaE 81 (be 3 ((60000000 : Int) / b).toNat))) := by
  have hr := mpqn_range b h
  unfold okBpm at h
  unfold MT.setTempo
  rw [if_neg (by omega), if_pos ⟨hr.1, hr.2, by omega⟩]

theorem passes_spec {I : S → Prop} {play : MT → Except Err MT} {f : S → List TEv × S} (h : Refines I play f)
    (h0 : I s0) (bpm rep : Int) (hb : okBpm bpm) :
    ∃ t0 t, MT.init bpm = .ok t0 ∧ Midi.repeatM play (times rep) t0 = .ok t ∧
      t.evs = tempoEv bpm :: (specPasses f (times rep) s0).1 := by
  obtain ⟨t, h1, r1, _⟩ := h.repeatM (times rep) (({} : MT).emit (tempoEv bpm).ev) [tempoEv bpm] s0
    (by simp [Rel, MT.emit, tempoEv, s0]) h0
  exact ⟨_, t, setTempo_ok {} bpm hb, h1, r1.1⟩

theorem trackOf_spec {st : S → List TEv × S} (tr : MTrack) (bpm rep : Int) (h : Refines okInstr (·.playTrack tr) st)
    (hb : okBpm bpm) :
    ∃ t, trackOf tr bpm rep = .ok t ∧ t.evs = tempoEv bpm :: (specPasses st (times rep) s0).1 := by
  obtain ⟨t0, t, h0, h1, he⟩ := passes_spec h okInstr_s0 bpm rep hb
  exact ⟨t, ok_then h0 h1, he⟩

theorem writeTrack_of {st : S → List TEv × S} (tr : MTrack) (bpm rep : Int) (h : Refines okInstr (·.playTrack tr) st)
    (hb : okBpm bpm) :
    ∃ t, writeTrack tr bpm rep = .ok (fileBytes [t]) ∧ t.evs = tempoEv bpm :: (specPasses st (times rep) s0).1 := by
  obtain ⟨t, h1, h2⟩ := trackOf_spec tr bpm rep h hb
  exact ⟨t, ok_then h1 rfl, h2⟩

/-- **write_Track**: the file holds one track whose events are the tempo followed by `repeat + 1` passes of the
    track specification. -/
theorem writeTrack_spec (tr : MTrack) (bpm rep : Int) (ht : okTrack tr) (hb : okBpm bpm) :
    ∃ t, writeTrack tr bpm rep = .ok (fileBytes [t]) ∧
      t.evs = tempoEv bpm :: (specPasses (fun s => specTrack s tr) (times rep) s0).1 :=
  writeTrack_of tr bpm rep (track_refines tr ht) hb

theorem writeBar_of {sb : S → List TEv × S} (b : MBar) (bpm rep : Int) (h : Refines okInstr (·.playBar b) sb)
    (hb : okBpm bpm) :
    ∃ t, writeBar b bpm rep = .ok (fileBytes [t]) ∧ t.evs = tempoEv bpm :: (specPasses sb (times rep) s0).1 := by
  obtain ⟨t0, t, h0, h1, he⟩ := passes_spec h okInstr_s0 bpm rep hb
  exact ⟨t, ok_then h0 (ok_then h1 rfl), he⟩

theorem writeBar_spec (b : MBar) (bpm rep : Int) (hbar : okBar b) (hb : okBpm bpm) :
    ∃ t, writeBar b bpm rep = .ok (fileBytes [t]) ∧
      t.evs = tempoEv bpm :: (specPasses (fun s => specBar s b) (times rep) s0).1 :=
  writeBar_of b bpm rep (bar_refines b hbar) hb

theorem writeComposition_of {st : S → MTrack → List TEv × S} (trs : List MTrack) (bpm rep : Int)
    (h : ∀ tr ∈ trs, Refines okInstr (·.playTrack tr) (st · tr)) (hb : okBpm bpm) :
    ∃ ts, writeComposition trs bpm rep = .ok (fileBytes ts) ∧
      ts.map (·.evs) = trs.map fun tr => tempoEv bpm :: (specPasses (st · tr) (times rep) s0).1 := by
  obtain ⟨ts, h1, h2⟩ := mapM_ok_of (p := MT.evs) fun tr htr => trackOf_spec tr bpm rep (h tr htr) hb
  exact ⟨ts, ok_then h1 rfl, h2⟩

/-- **write_Composition**: one chunk per track, each as `write_Track` would write it. -/
theorem writeComposition_spec (trs : List MTrack) (bpm rep : Int) (ht : ∀ tr ∈ trs, okTrack tr) (hb : okBpm bpm) :
    ∃ ts, writeComposition trs bpm rep = .ok (fileBytes ts) ∧
      ts.map (·.evs) = trs.map (fun tr => tempoEv bpm :: (specPasses (fun s => specTrack s tr) (times rep) s0).1) :=
  writeComposition_of trs bpm rep (fun tr h => track_refines tr (ht tr h)) hb

def specLone (ns : List Note) : List TEv :=
  match ns with
  | [] => []
  | n :: rest => ⟨0, onEv n⟩ :: rest.map (fun m => ⟨0, onEv m⟩) ++ ⟨72, offEv n⟩ :: rest.map (fun m => ⟨0, offEv m⟩)

theorem lone_refines (ns : List Note) (h : ∀ n ∈ ns, okNote n) :
    Refines (·.ci = false) (lonePass ns) fun s => (specLone ns, s) := by
  intro t evs s ⟨r1, r2, r3, r4⟩ hci
  cases ns with
  | nil => exact ⟨_, rfl, by simp [specLone, Rel, MT.setDelta, r1, r2, r3, r4], hci⟩
  | cons n rest =>
    have hc : t.changeInstr = false := r3.trans hci
    rw [lonePass, playNC_ok _ n rest (by simp [MT.setDelta, hc]) h, ok_bind, stopNC_ok _ n rest rfl h]
    exact ⟨_, rfl, by simp [specLone, MT.setDelta, Rel, hc, r1, r2, r4, hci], hci⟩

/-- **write_NoteContainer** / **write_Note**: `repeat + 1` copies, each lasting 72 ticks -/
theorem writeNC_spec (ns : List Note) (bpm rep : Int) (h : ∀ n ∈ ns, okNote n) (hb : okBpm bpm) :
    ∃ t, writeNC ns bpm rep = .ok (fileBytes [t]) ∧
      t.evs = tempoEv bpm :: (List.replicate (times rep) (specLone ns)).flatten := by
  obtain ⟨t0, t, h0, h1, he⟩ := passes_spec (lone_refines ns h) rfl bpm rep hb
  refine ⟨t, ok_then h0 (ok_then h1 rfl), ?_⟩
  rw [he, specPasses_eq, thread_const, List.flatMap_replicate]

theorem writeNote_spec (n : Note) (bpm rep : Int) (h : okNote n) (hb : okBpm bpm) :
    ∃ t, writeNote n bpm rep = .ok (fileBytes [t]) ∧
      t.evs = tempoEv bpm :: (List.replicate (times rep) (specLone [n])).flatten :=
  writeNC_spec [n] bpm rep (by simpa using h) hb

end Mingus.Props.C16
