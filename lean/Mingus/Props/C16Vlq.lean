import Mingus.Model.Midi
/-
  C16/C17 — the variable-length quantity.  `toVarbyte` (the model of int_to_varbyte) equals the standard encoding for
  *every* natural number, the standard decoder inverts it, and below 2^28 it is at most four bytes.
-/
namespace Mingus.Props.C16
open Mingus Mingus.Midi

def encHi (m : Nat) : Bytes :=
  if m < 128 then [m + 128] else encHi (m / 128) ++ [m % 128 + 128]
termination_by m
decreasing_by omega

/-- the standard encoding (SMF 1.0): base-128 digits, big endian, high bit on all but the last -/
def stdEnc (n : Nat) : Bytes :=
  if n < 128 then [n] else encHi (n / 128) ++ [n % 128]

def stdDec (acc : Nat) : Bytes → Option (Nat × Bytes)
  | [] => none
  | b :: bs => if b ≥ 128 then stdDec (acc * 128 + (b - 128)) bs else some (acc * 128 + b, bs)

def digitsLE (n len : Nat) : Bytes := (List.range len).map fun i => (n >>> (i * 7)) % 128

theorem digitsLE_succ (n k : Nat) : digitsLE n (k + 1) = (n % 128) :: digitsLE (n / 128) k := by
  have h (i : Nat) : n >>> ((i + 1) * 7) = (n / 128) >>> (i * 7) := by
    rw [Nat.add_mul, Nat.add_comm, Nat.shiftRight_add, Nat.shiftRight_eq_div_pow n]
  simp [digitsLE, List.range_succ_eq_map, Function.comp_def, h]

/-- `digitsLE n len` is the `digits` list of `toVarbyte` -/
theorem toVarbyte_eq (n : Nat) :
    toVarbyte n = (digitsLE (n / 128) (vlqLen n - 1)).reverse.map (· + 128) ++ [n % 128] := by
  have h : vlqLen n = vlqLen n - 1 + 1 := by rw [vlqLen]; split <;> omega
  unfold toVarbyte
  rw [h]
  simp [← digitsLE.eq_1, digitsLE_succ]

theorem encHi_eq_digits (m : Nat) : ((digitsLE m (vlqLen m)).reverse.map (· + 128)) = encHi m := by
  induction m using Nat.strongRecOn with
  | _ m ih =>
    rw [encHi, vlqLen]
    split
    · simp [digitsLE, *]
    · rw [digitsLE_succ, List.reverse_cons, List.map_append, ih (m / 128) (by omega)]; rfl

theorem toVarbyte_standard (n : Nat) : toVarbyte n = stdEnc n := by
  rw [toVarbyte_eq, stdEnc, vlqLen]
  split
  · simp [digitsLE, Nat.mod_eq_of_lt, *]
  · rw [Nat.add_sub_cancel, encHi_eq_digits]

theorem dec_encHi (m : Nat) : ∀ tail : Bytes, stdDec 0 (encHi m ++ tail) = stdDec m tail := by
  induction m using Nat.strongRecOn with
  | _ m ih =>
    intro tail
    rw [encHi]
    by_cases h : m < 128
    · simp [h, stdDec]
    · simp only [h, if_false, List.append_assoc, List.cons_append, List.nil_append]
      rw [ih (m / 128) (by omega)]
      simp only [stdDec, ge_iff_le, Nat.le_add_left, if_true, Nat.add_sub_cancel]
      congr 1; omega

theorem dec_enc (n : Nat) (tail : Bytes) : stdDec 0 (stdEnc n ++ tail) = some (n, tail) := by
  unfold stdEnc
  by_cases h : n < 128
  · simp [h, stdDec]; omega
  · simp only [h, if_false, List.append_assoc, List.cons_append, List.nil_append]
    rw [dec_encHi]
    have hlt : n % 128 < 128 := Nat.mod_lt _ (by omega)
    simp only [stdDec, ge_iff_le, Nat.not_le.mpr hlt, if_false]
    congr 2; omega

theorem dec_toVarbyte (n : Nat) (tail : Bytes) : stdDec 0 (toVarbyte n ++ tail) = some (n, tail) := by
  rw [toVarbyte_standard]; exact dec_enc n tail

theorem toVarbyte_length (n : Nat) : (toVarbyte n).length = vlqLen n := by
  rw [toVarbyte_eq, vlqLen]; split <;> simp [digitsLE]

theorem vlqLen_le (k : Nat) : ∀ n, n < 128 ^ (k + 1) → vlqLen n ≤ k + 1 := by
  induction k with
  | zero => intro n h; rw [vlqLen, if_pos h]; omega
  | succ k ih =>
    intro n h
    rw [vlqLen]
    split
    · omega
    · have := ih (n / 128) (Nat.div_lt_of_lt_mul (by rwa [Nat.pow_succ'] at h)); omega

theorem enc_len_le4 (n : Nat) (h : n < 2 ^ 28) : (toVarbyte n).length ≤ 4 := by
  rw [toVarbyte_length]; exact vlqLen_le 3 n h

theorem enc_shape (n : Nat) : ∃ hi last, toVarbyte n = hi ++ [last] ∧ last < 128 ∧ ∀ b ∈ hi, 128 ≤ b ∧ b < 256 := by
  refine ⟨_, _, toVarbyte_eq n, Nat.mod_lt _ (by omega), ?_⟩
  simp only [digitsLE, List.mem_map, List.mem_reverse]
  rintro b ⟨_, ⟨i, _, rfl⟩, rfl⟩
  omega

theorem toVarbyte_ne_nil (n : Nat) : toVarbyte n ≠ [] := by simp [toVarbyte_eq]

example : toVarbyte 0 = [0] ∧ toVarbyte 127 = [127] ∧ toVarbyte 128 = [129, 0] ∧ toVarbyte 16383 = [255, 127]
    ∧ toVarbyte 16384 = [129, 128, 0] ∧ toVarbyte (2 ^ 28 - 1) = [255, 255, 255, 127] := by decide +kernel

end Mingus.Props.C16
