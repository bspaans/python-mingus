import Mingus.Model.Export
import Mingus.Lemmas.Except
import Mathlib.Data.Rat.Floor
/-
  C19 — LilyPond and MusicXML export preserve the written music.

  LilyPond: the reader of one pitch token (`readPitch`, `lyNote_roundtrip`) and the kernel tables of the duration
  vocabulary and of the 30 keys (`duration_table`, `key_table`); entries, bars, tracks and compositions are read back in
  C19Entry, C19Bar, C19Track, C19Comp.  MusicXML: the arithmetic of a duration (`duration_exact`) and, on the element
  tree, `entry_notes_spec`, `part_ids_match`.  The text of whole files is tied by the character-exact correspondence and
  decoded by the independent Python reader.
-/
namespace Mingus.Props.C19
open Mingus Mingus.Export Mingus.Containers

def readAcc : Str → Str × Str
  | 'i' :: 's' :: t => let r := readAcc t; ('#' :: r.1, r.2)
  | 'e' :: 's' :: t => let r := readAcc t; ('b' :: r.1, r.2)
  | t => ([], t)

def readOctave (t : Str) : Option Int :=
  if t = [] then some 3
  else if t.all (· = '\'') then some (3 + t.length)
  else if t.all (· = ',') then some (3 - t.length)
  else none

/-- an independent reader of one LilyPond pitch: (letter, accidentals, octave) -/
def readPitch : Str → Option (Char × Str × Int)
  | [] => none
  | l :: t =>
    if 'a'.toNat ≤ l.toNat ∧ l.toNat ≤ 'g'.toNat then
      let r := readAcc t
      (readOctave r.2).map fun o => (l, r.1, o)
    else none

def accOnly (t : Str) : Prop := ∀ c ∈ t, c = '#' ∨ c = 'b'

theorem readAcc_lyAcc (t : Str) (h : accOnly t) (rest : Str) (hr : ∀ c ∈ rest.head?, c ≠ 'i' ∧ c ≠ 'e') :
    readAcc (lyAcc t ++ rest) = (t, rest) := by
  induction t with
  | nil =>
    rcases rest with _ | ⟨c, cs⟩
    · rfl
    · have := hr c rfl
      unfold readAcc
      split <;> simp_all [lyAcc]
  | cons a as ih =>
    have ih' := ih fun c hc => h c (List.mem_cons_of_mem _ hc)
    rcases h a List.mem_cons_self with rfl | rfl
    · show readAcc ('i' :: 's' :: (lyAcc as ++ rest)) = _
      simp only [readAcc, ih']
    · show readAcc ('e' :: 's' :: (lyAcc as ++ rest)) = _
      simp only [readAcc, ih']

theorem readOctave_lyOctave (o : Int) : readOctave (lyOctave o) = some o := by
  unfold lyOctave readOctave
  split
  · have : (o - 3).toNat ≠ 0 := by omega
    simp [List.replicate_eq_nil_iff, this]
    omega
  · split
    · have : (3 - o).toNat ≠ 0 := by omega
      simp [List.replicate_eq_nil_iff, this]
      omega
    · simp; omega

/-! ### what a text is made of

  A printer's text is `⊆` an alphabet (a literal string); what a reader needs of a text is that it is `Free` of some
  characters; between the two stands a decidable statement about the alphabet. -/

abbrev Free (bad s : Str) : Prop := ∀ c ∈ s, c ∉ bad

theorem Free.of_sub {bad A s : Str} (hA : Free bad A) (h : s ⊆ A) : Free bad s := fun c hc => hA c (h hc)
theorem Free.mono {bad bad' s : Str} (h : Free bad s) (hb : bad' ⊆ bad) : Free bad' s := fun c hc hm => h c hc (hb hm)
theorem Free.append {bad a b : Str} (ha : Free bad a) (hb : Free bad b) : Free bad (a ++ b) :=
  fun c hc => (List.mem_append.1 hc).elim (ha c) (hb c)

def pitchChars : Str := "abcdefgis',".toList

theorem lyAcc_sub (t : Str) : lyAcc t ⊆ pitchChars := by
  induction t with
  | nil => simp [lyAcc]
  | cons a as ih =>
    rw [lyAcc]
    refine List.append_subset.2 ⟨?_, ih⟩
    split
    · decide
    · split <;> decide

theorem lyOctave_sub (o : Int) : lyOctave o ⊆ "',".toList := by
  intro c hc
  unfold lyOctave at hc
  split at hc
  · rw [List.eq_of_mem_replicate hc]; decide
  · split at hc
    · rw [List.eq_of_mem_replicate hc]; decide
    · simp at hc

def isUpperLetter (l : Char) : Prop := l = 'A' ∨ l = 'B' ∨ l = 'C' ∨ l = 'D' ∨ l = 'E' ∨ l = 'F' ∨ l = 'G'

theorem lowerChar_upper {l : Char} (hl : isUpperLetter l) :
    ('a'.toNat ≤ (lowerChar l).toNat ∧ (lowerChar l).toNat ≤ 'g'.toNat) ∧ lowerChar l ∈ pitchChars := by
  rcases hl with rfl | rfl | rfl | rfl | rfl | rfl | rfl <;> decide

theorem lyNote_eq (l : Char) (t : Str) (o ch vel : Int) (po : Bool) :
    lyNote ⟨l :: t, o, ch, vel⟩ po false = .ok (lowerChar l :: (lyAcc t ++ if po then lyOctave o else [])) := by
  cases po <;> rfl

/-- `hm`: octave marks never begin with `i` or `e`, so `readAcc` stops at them -/
theorem readPitch_cons (l : Char) (hl : 'a'.toNat ≤ l.toNat ∧ l.toNat ≤ 'g'.toNat) (t : Str) (ht : accOnly t) (m : Str)
    (hm : ∀ c ∈ m.head?, c ≠ 'i' ∧ c ≠ 'e') :
    readPitch (l :: (lyAcc t ++ m)) = (readOctave m).map fun o => (l, t, o) := by
  simp only [readPitch, hl, and_self, if_true, readAcc_lyAcc t ht m hm]

theorem readPitch_tok (l : Char) (hl : isUpperLetter l) (t : Str) (ht : accOnly t) (o : Int) :
    readPitch (lowerChar l :: (lyAcc t ++ lyOctave o)) = some (lowerChar l, t, o) := by
  have hm : ∀ c ∈ (lyOctave o).head?, c ≠ 'i' ∧ c ≠ 'e' := fun c hc =>
    (by decide : ∀ c ∈ "',".toList, c ≠ 'i' ∧ c ≠ 'e') c (lyOctave_sub o (List.mem_of_mem_head? hc))
  rw [readPitch_cons _ (lowerChar_upper hl).1 t ht _ hm, readOctave_lyOctave]; rfl

/-- **every note** — any letter, any string of accidentals, any octave — is recovered from its LilyPond token -/
theorem lyNote_roundtrip (l : Char) (t : Str) (o ch vel : Int) (hl : isUpperLetter l) (ht : accOnly t) :
    (lyNote ⟨l :: t, o, ch, vel⟩ true false).toOption.bind readPitch = some (lowerChar l, t, o) := by
  rw [lyNote_eq]; exact readPitch_tok l hl t ht o

/-- without octave processing (the key of a bar) the token is the letter and the accidentals alone -/
theorem lyNote_no_octave (l : Char) (t : Str) (o ch vel : Int) (hl : isUpperLetter l) (ht : accOnly t) :
    (lyNote ⟨l :: t, o, ch, vel⟩ false false).toOption.bind readPitch = some (lowerChar l, t, 3) := by
  rw [lyNote_eq]
  simpa [Except.toOption, readOctave] using readPitch_cons _ (lowerChar_upper hl).1 t ht [] nofun

theorem lyNote_standalone (n : Note) (po : Bool) (x : Str) (h : lyNote n po false = .ok x) :
    lyNote n po true = .ok (lit "{ " ++ x ++ lit " }") := by
  obtain ⟨_ | ⟨l, t⟩, o, ch, vel⟩ := n
  · cases h
  · rw [lyNote_eq] at h
    cases h
    cases po <;> rfl

def bases : List Rat := [1/4, 1/2, 1, 2, 4, 8, 16, 32, 64, 128]

def baseText (b : Rat) : Str := if b = 1/4 then lit "\\longa" else if b = 1/2 then lit "\\breve" else Note.showInt b.floor

/-- every base value with 0, 1 or 2 dots (as the doubles `dots()` produces), and every triplet, quintuplet and
    septuplet of the values 1 … 128: the suffix written is the base value's text followed by one `.` per dot, and the
    analysis used for the `\times` block is the tuplet's ratio (whole table, in the kernel) -/
theorem duration_table :
    (∀ b ∈ bases, ∀ d ∈ [0, 1, 2],
      lyDuration (Value.dotsF b d) = .ok (baseText b ++ List.replicate d '.') ∧
      (Value.determine (Value.dotsF b d)).toOption.map (fun p => (p.2.2.1, p.2.2.2)) = some (1, 1)) ∧
    (∀ b ∈ bases.drop 2, ∀ r ∈ [(3, 2), (5, 4), (7, 4)],
      lyDuration (Value.tuplet b r.1 r.2) = .ok (baseText b) ∧
      (Value.determine (Value.tuplet b r.1 r.2)).toOption.map (fun p => (p.1, p.2.1, p.2.2.1, p.2.2.2)) = some (b, 0, r.1, r.2)) := by
  decide +kernel

-- the Decidable instance of this statement takes more than the default 128 steps of instance search
set_option synthInstance.maxSize 256 in
/-- the key text for each of the 30 keys reads back as the tonic (letter and accidentals); the mode is `key_mode_table` -/
theorem key_table : ∀ k ∈ Keys.allKeys,
    (lyBar ⟨k, 4, 4, []⟩ true false).toOption.map (fun s => (s.take 7, readPitch ((s.drop 7).takeWhile (· ≠ ' ')))) =
      some (lit "{ \\key ", some (lowerChar (k.headD 'C'), k.drop 1, 3)) := by
  decide +kernel

theorem key_mode_table : ∀ k ∈ Keys.allKeys,
    (lyBar ⟨k, 4, 4, []⟩ true false).toOption.map (fun s => ((s.drop 7).dropWhile (· ≠ ' ')).drop 2) =
      some (modeOf k ++ lit " }") := by
  decide +kernel

theorem foldl_lcm (as : List Nat) : ∀ a : Nat,
    a ∣ as.foldl (fun a b => a * b / Nat.gcd a b) a ∧ (∀ x ∈ as, x ∣ as.foldl (fun a b => a * b / Nat.gcd a b) a) ∧
    (0 < a → (∀ x ∈ as, 0 < x) → 0 < as.foldl (fun a b => a * b / Nat.gcd a b) a) := by
  induction as with
  | nil => simp
  | cons b bs ih =>
    intro a
    obtain ⟨h1, h2, h3⟩ := ih (Nat.lcm a b)
    refine ⟨(Nat.dvd_lcm_left a b).trans h1, fun x hx => ?_, fun ha hb => ?_⟩
    · rcases List.mem_cons.1 hx with rfl | hx
      · exact (Nat.dvd_lcm_right a x).trans h1
      · exact h2 x hx
    · obtain ⟨hb, hbs⟩ := List.forall_mem_cons.1 hb
      exact h3 (Nat.lcm_pos ha hb) hbs

theorem dvd_lcmList (l : List Nat) : ∀ x ∈ l, x ∣ lcmList l := by
  rcases l with _ | ⟨a, as⟩
  · simp
  · intro x hx
    rcases List.mem_cons.1 hx with rfl | hx
    · exact (foldl_lcm as x).1
    · exact (foldl_lcm as a).2.1 x hx

theorem lcmList_pos (l : List Nat) (h : ∀ x ∈ l, 0 < x) : 0 < lcmList l := by
  rcases l with _ | ⟨a, as⟩
  · exact Nat.one_pos
  · obtain ⟨ha, has⟩ := List.forall_mem_cons.1 h
    exact (foldl_lcm as a).2.2 ha has

/-- **durations are exact**: whatever the entries of a bar (any base value, dots, tuplet ratio), with `divisions` the lcm of
    the denominators of their lengths in quarter notes, as the exporter computes it, `floor (divisions · q) / divisions = q`
    for each length `q`: the arithmetic of a note element's duration (the element tree is not part of the statement) -/
theorem duration_exact (parsed : List (Rat × Nat × Nat × Nat)) (p : Rat × Nat × Nat × Nat) (hp : p ∈ parsed) :
    let divisions := lcmList (parsed.map fun q => (quarterLength q).den)
    ((((divisions : Rat) * quarterLength p).floor : Int) : Rat) / (divisions : Rat) = quarterLength p ∧ 0 < divisions := by
  intro divisions
  have hpos : 0 < divisions := lcmList_pos _ fun x hx => by
    obtain ⟨q, _, rfl⟩ := List.mem_map.1 hx; exact (quarterLength q).den_pos
  obtain ⟨k, hk⟩ : (quarterLength p).den ∣ divisions := dvd_lcmList _ _ (List.mem_map.2 ⟨p, hp, rfl⟩)
  -- divisions · q is the integer k · num q
  have hmul : (divisions : Rat) * quarterLength p = ((k * (quarterLength p).num : Int) : Rat) := by
    rw [hk]; push_cast; rw [mul_right_comm, Rat.den_mul_eq_num, mul_comm]
  refine ⟨?_, hpos⟩
  rw [hmul, Rat.floor_intCast, ← hmul, mul_div_cancel_left₀ _ (by exact_mod_cast hpos.ne')]

def childTags : Xml → List Str
  | .elem _ _ _ c => c.map fun x => match x with | .elem t _ _ _ => t

theorem childTags_addChildren (x : Xml) (more : List Xml) :
    childTags (addChildren x more) = childTags x ++ more.map (fun y => match y with | .elem t _ _ _ => t) := by
  cases x; simp [addChildren, childTags]

def headTag : Option Note → Str
  | none => lit "rest"
  | some _ => lit "pitch"

/-- **note elements of an entry**: one per note of the container (one rest otherwise); the children of the i-th are, in
    order: the pitch (or rest), the chord flag exactly when the entry is a chord and i > 0, one duration, one `dot` per
    dot, the type when the base value has a name, the time modification for tuplets -/
theorem entry_notes_spec (divisions : Nat) (e : LEntry) (p : Rat × Nat × Nat × Nat) :
    (xmlEntryNotes divisions e p).length = (entryHeads e).length ∧
    ∀ i (hi : i < (xmlEntryNotes divisions e p).length) (hh : i < (entryHeads e).length),
      childTags ((xmlEntryNotes divisions e p)[i]) =
        [headTag ((entryHeads e)[i])] ++ (if (entryHeads e).length > 1 ∧ i > 0 then [lit "chord"] else []) ++ [lit "duration"] ++
        List.replicate p.2.1 (lit "dot") ++ (typeName p.1).toList.map (fun _ => lit "type") ++
        (if p.2.2.1 ≠ 1 ∧ p.2.2.2 ≠ 1 then [lit "time-modification"] else []) := by
  refine ⟨by simp [xmlEntryNotes], ?_⟩
  intro i hi hh
  have hhead : ∀ h : Option Note, childTags (xmlNoteHead h) = [headTag h] := by
    intro h; cases h <;> rfl
  simp only [xmlEntryNotes, List.getElem_map, List.getElem_zip, List.getElem_range, childTags_addChildren, hhead,
    List.map_append]
  by_cases hc : (entryHeads e).length > 1 ∧ i > 0 <;> by_cases ht : p.2.2.1 ≠ 1 ∧ p.2.2.2 ≠ 1 <;>
    simp [hc, ht, node, leaf, lit, List.map_replicate, Function.comp_def, List.map_const']

/-- the heads: a container with notes gives one head per note, anything else (None, the empty container) one rest -/
theorem entryHeads_spec (e : LEntry) :
    entryHeads e = (match e.content with | some (n :: ns) => (n :: ns).map some | _ => [none]) := rfl

def attrOf (x : Xml) (k : String) : Option Str := match x with | .elem _ a _ _ => (a.find? (fun p => p.1 == k.toList)).map (·.2)
def tagOf : Xml → Str | .elem t _ _ _ => t
def kids : Xml → List Xml | .elem _ _ _ c => c

theorem attrOf_id (t v x : Str) (c : List Xml) : attrOf (.elem t [(lit "id", v)] x c) "id" = some v := by
  simp [attrOf, lit]

theorem xmlTrack_ok {t : XTrack} {i : Nat} {p : Xml} (h : xmlTrack t i = .ok p) :
    tagOf p = lit "part" ∧ attrOf p "id" = some (lit "P" ++ Note.showNat i) := by
  simp only [xmlTrack, bind_eq_ok, pure_eq_ok] at h
  obtain ⟨bars, -, rfl⟩ := h
  exact ⟨rfl, attrOf_id ..⟩

theorem map_zip_range {α γ} (g : Nat → γ) (n : Nat) (l : List α) (h : n ≤ l.length) :
    ((List.range n).zip l).map (fun x => g x.1) = (List.range n).map g := by
  show ((List.range n).zip l).map (g ∘ Prod.fst) = _
  rw [← List.map_map, List.map_fst_zip (by simpa using h)]

theorem foldl_fst_length {α β γ} (f : List β × γ → α → List β × γ) (hf : ∀ acc t, (f acc t).1.length = acc.1.length + 1)
    (ts : List α) : ∀ acc, (ts.foldl f acc).1.length = acc.1.length + ts.length := fun acc =>
  foldl_inv f (fun a done => a.1.length = acc.1.length + done.length) ts acc rfl fun a t _ done h => by
    rw [hf, h, List.length_append, List.length_singleton, Nat.add_assoc]

/-- the children of `score-partwise`: the parts are the `part` children, the part list is the one `part-list` child; so the
    claim is about the ids of `parts` and of the score parts `sp` -/
theorem ids_of_children (pre sp parts : List Xml) (hP : ∀ c ∈ pre, tagOf c ≠ lit "part" ∧ tagOf c ≠ lit "part-list")
    (hT : ∀ c ∈ parts, tagOf c = lit "part") (hI : parts.map (attrOf · "id") = sp.map (attrOf · "id")) :
    ((pre ++ [node "part-list" sp] ++ parts).filter (fun c => tagOf c == lit "part")).map (attrOf · "id") =
    (((pre ++ [node "part-list" sp] ++ parts).filter (fun c => tagOf c == lit "part-list")).flatMap kids).map (attrOf · "id") := by
  have h1 : pre.filter (fun c => tagOf c == lit "part") = [] := List.filter_eq_nil_iff.2 fun c hc => by simp [(hP c hc).1]
  have h2 : pre.filter (fun c => tagOf c == lit "part-list") = [] := List.filter_eq_nil_iff.2 fun c hc => by simp [(hP c hc).2]
  have h3 : parts.filter (fun c => tagOf c == lit "part") = parts := List.filter_eq_self.2 fun c hc => by simp [hT c hc]
  have h4 : parts.filter (fun c => tagOf c == lit "part-list") = [] :=
    List.filter_eq_nil_iff.2 fun c hc => by rw [hT c hc]; decide
  have h5 : (tagOf (node "part-list" sp) == lit "part") = false := (by decide : (lit "part-list" == lit "part") = false)
  have h6 : (tagOf (node "part-list" sp) == lit "part-list") = true := (by decide : (lit "part-list" == lit "part-list") = true)
  simp only [List.filter_append, List.filter_cons, List.filter_nil, h1, h2, h3, h4, h5, h6, if_true, List.nil_append,
    List.append_nil, List.flatMap_cons, List.flatMap_nil, Bool.false_eq_true, if_false, hI]
  rfl

/-- the ids of the `part` elements are, in order, the ids of the `score-part` elements of the part list -/
theorem part_ids_match (title author : Str) (tracks : List XTrack) (x : Xml) (h : xmlComposition title author tracks = .ok x) :
    ((kids x).filter (fun c => tagOf c == lit "part")).map (attrOf · "id") =
    (((kids x).filter (fun c => tagOf c == lit "part-list")).flatMap kids).map (attrOf · "id") := by
  simp only [xmlComposition, bind_eq_ok, pure_eq_ok] at h
  obtain ⟨parts, hparts, rfl⟩ := h
  obtain ⟨hlen, hpt⟩ := mapM_ok hparts
  have hp : ∀ i (hi : i < parts.length), tagOf parts[i] = lit "part" ∧
      attrOf parts[i] "id" = some (lit "P" ++ Note.showNat i) := fun i hi => by
    simpa using xmlTrack_ok (hpt i (hlen ▸ hi) hi)
  have hT : ∀ c ∈ parts, tagOf c = lit "part" := fun c hc => by
    obtain ⟨i, hi, rfl⟩ := List.getElem_of_mem hc; exact (hp i hi).1
  have hI : parts.map (attrOf · "id") = (List.range tracks.length).map fun i => some (lit "P" ++ Note.showNat i) :=
    List.ext_getElem (by simp [hlen]) fun i h1 _ => by simpa using (hp i (by simpa using h1)).2
  refine ids_of_children _ _ parts ?_ hT ?_
  · split <;> simp [tagOf, node, leaf] <;> decide
  · rw [hI, List.map_map]
    refine (map_zip_range (fun i => some (lit "P" ++ Note.showNat i)) _ _ ?_).symm.trans (List.map_congr_left fun a _ => ?_)
    · rw [List.length_zip, foldl_fst_length _ (fun acc t => by split <;> simp)]; simp
    · simp only [Function.comp, attrOf_id]

end Mingus.Props.C19
