import Mingus.Props.C16
/-
  C16 — the remaining clauses: per-bar time and key signatures, all 30 keys, tempo, track name, bank select and program
  change on the first note's channel, tick lengths, lone notes and containers, and "no note hangs or overlaps itself".
-/
namespace Mingus.Props.C16
open Mingus Mingus.Midi Mingus.Containers

def firstNote : List MEntry → Option Note
  | [] => none
  | e :: es => match e.notes with
    | n :: _ => some n
    | [] => firstNote es

/-- the rests before the first sounding entry write nothing, so a pending instrument change goes before everything -/
theorem specEntries_evs (es : List MEntry) : ∀ s, (specEntries s es).1.map (·.ev) =
    (match firstNote es with
      | some n => if s.ci then [bankEv n, progEv n s.instr] else []
      | none => []) ++ es.flatMap fun e => e.notes.map onEv ++ e.notes.map offEv := by
  induction es with
  | nil => intro s; rfl
  | cons e es ih =>
    intro s
    rw [specEntries, List.map_append, specEntry_evs, ih, firstNote]
    cases hn : e.notes with
    | nil => simp [specEntry, hn]
    | cons n rest => cases firstNote es <;> simp [specEntry, hn]

def isSig : Ev → Bool
  | .metaE t _ => t = 88 || t = 89
  | _ => false

def sigs (l : List TEv) : List Ev := (l.map (·.ev)).filter isSig

theorem sigs_append (a b : List TEv) : sigs (a ++ b) = sigs a ++ sigs b := by simp [sigs]

theorem sigs_specEntries (es : List MEntry) (s : S) : sigs (specEntries s es).1 = [] := by
  rw [sigs, specEntries_evs]
  cases firstNote es <;> cases s.ci <;>
    simp [List.filter_flatMap, List.filter_map, Function.comp_def, isSig, onEv, offEv, bankEv, progEv]

/-- **per bar**: exactly one time signature and one key signature per written bar, in order, with the bar's values -/
theorem sigs_specBars (bs : List MBar) (hk : ∀ b ∈ bs, (keyEv? b.key).isSome = true) : ∀ s,
    sigs (specBars s bs).1 = bs.flatMap fun b => [meterEv b, keyEv b.key] := by
  clear hk
  induction bs with
  | nil => intro s; rfl
  | cons b bs ih =>
    intro s
    obtain ⟨d, hd⟩ := keyEv_meta b.key
    rw [specBars, sigs_append, ih, specBar, sigs_append, sigs_specEntries]
    simp [sigs, isSig, meterEv, hd]

/-- the key signature for each of the 30 keys: the signed count of sharps (+) or flats (−) of `get_key_signature`
    as a byte, and 1 for the minor keys (whole table) -/
theorem keyEv_table : ∀ k ∈ Keys.allKeys,
    keyEv? k = (match Keys.getKeySignature k with
      | .ok a => some (.metaE 89 [(if a < 0 then 256 + a else a).toNat, if k ∈ Keys.minorKeys then 1 else 0])
      | .error _ => none) := by
  decide +kernel

theorem meterEv_data (b : MBar) : meterEv b = .metaE 88 [b.count.toNat, Nat.log2 b.unit.toNat, 24, 8] := rfl

theorem log2_pow (k : Nat) : Nat.log2 (2 ^ k) = k := Nat.log2_two_pow

theorem tempo_first (bpm : Int) (l : List TEv) :
    (tempoEv bpm :: l).head? = some ⟨0, .metaE 81 (be 3 ((60000000 : Int) / bpm).toNat)⟩ := rfl

theorem beVal_tempo (bpm : Int) (h : okBpm bpm) : beVal (be 3 ((60000000 : Int) / bpm).toNat) = ((60000000 : Int) / bpm).toNat :=
  (beVal_be 3 _).trans (Nat.mod_eq_of_lt (by have := mpqn_range bpm h; omega))

theorem name_first (s : S) (tr : MTrack) :
    (specTrack s tr).1.head? = some ⟨0, .metaE 3 (tr.name.map Char.toNat)⟩ := rfl

def isInstr : Ev → Bool
  | .chan2 k _ _ _ => k = 11
  | .chan1 k _ _ => k = 12
  | _ => false

def instrEvs (l : List TEv) : List Ev := (l.map (·.ev)).filter isInstr

theorem instrEvs_append (a b : List TEv) : instrEvs (a ++ b) = instrEvs a ++ instrEvs b := by simp [instrEvs]

theorem instrEvs_map (f : Note → Ev) (hf : ∀ m, isInstr (f m) = false) (ns : List Note) (d : Nat) :
    instrEvs (ns.map fun m => ⟨d, f m⟩) = [] := by
  simp [instrEvs, List.filter_eq_nil_iff, hf]

theorem instrEvs_map_on (ns : List Note) (d : Nat) : instrEvs (ns.map fun m => ⟨d, onEv m⟩) = [] :=
  instrEvs_map onEv (fun _ => rfl) ns d
theorem instrEvs_map_off (ns : List Note) (d : Nat) : instrEvs (ns.map fun m => ⟨d, offEv m⟩) = [] :=
  instrEvs_map offEv (fun _ => rfl) ns d

/-- with no change pending nothing is selected; with a change pending, exactly one bank select and one program change,
    on the channel of the first note that sounds, carrying the instrument number -/
theorem instrEvs_specEntries (es : List MEntry) : ∀ s,
    instrEvs (specEntries s es).1 = (match firstNote es with
      | some n => if s.ci then [bankEv n, progEv n s.instr] else []
      | none => []) := by
  intro s
  rw [instrEvs, specEntries_evs]
  cases firstNote es <;> cases s.ci <;>
    simp [List.filter_flatMap, List.filter_map, Function.comp_def, isInstr, onEv, offEv, bankEv, progEv]

/-- … and they come immediately before that first note-on, at the time the entry starts -/
theorem instr_before_first_on (s : S) (e : MEntry) (n : Note) (rest : List Note) (h : e.notes = n :: rest) (hci : s.ci = true) :
    ∃ tail, (specEntry s e).1 = ⟨s.delay, bankEv n⟩ :: ⟨0, progEv n s.instr⟩ :: ⟨0, onEv n⟩ :: tail := by
  unfold specEntry; simp [h, hci]

/-- `int(round((1.0 / v) * 288))` in double arithmetic is the nearest integer to 288 / v (ties to even) for every
    integer value 1 … 128 (whole table, double arithmetic evaluated exactly in the kernel) -/
theorem tick_table : ∀ v ∈ List.range 129, v ≠ 0 → tickOf (v : Rat) = (pyRound ((288 : Rat) / v)).toNat := by
  decide +kernel

theorem lone_denotes (ns : List Note) (T : Nat) :
    notesAt T (specLone ns) = ns.map (fun m => (T, onEv m)) ++ ns.map (fun m => (T + 72, offEv m)) ∧
    (ns ≠ [] → total (specLone ns) = 72) := by
  cases ns with
  | nil => simp [specLone, notesAt_nil]
  | cons n rest =>
    simp [specLone, notesAt_append, notesAt_cons, notesAt_zero, total_append, total_cons, total_zero, isNote, onEv,
      offEv]

/-- a note or container written on its own `k` times: copy `i` starts at tick 72·i and lasts 72 ticks -/
theorem lone_passes_denote (ns : List Note) (hne : ns ≠ []) : ∀ (k : Nat) (T : Nat),
    notesAt T (List.replicate k (specLone ns)).flatten =
      (List.range k).flatMap fun i => ns.map (fun m => (T + 72 * i, onEv m)) ++ ns.map (fun m => (T + 72 * i + 72, offEv m)) := by
  intro k
  induction k with
  | zero => intro T; rfl
  | succ k ih =>
    intro T
    rw [List.replicate_succ, List.flatten_cons, notesAt_append, (lone_denotes ns T).1, (lone_denotes ns T).2 hne, ih (T + 72),
      List.range_succ_eq_map, List.flatMap_cons, List.flatMap_map]
    simp [Nat.mul_succ, Nat.add_assoc, Nat.add_comm 72]

def keyOf : Ev → Nat × Nat
  | .chan2 _ c p _ => (c, p)
  | _ => (0, 0)

/-- play the note events against the set of sounding (channel, pitch) keys; `none` = an overlap or a stray note-off -/
def sound : List (Nat × Nat) → List (Nat × Ev) → Option (List (Nat × Nat))
  | on, [] => some on
  | on, (_, .chan2 9 c p _) :: rest => if (c, p) ∈ on then none else sound ((c, p) :: on) rest
  | on, (_, .chan2 8 c p _) :: rest => if (c, p) ∈ on then sound (on.erase (c, p)) rest else none
  | on, _ :: rest => sound on rest

theorem keyOf_off (n : Note) : keyOf (offEv n) = keyOf (onEv n) := rfl

theorem sound_on (on : List (Nat × Nat)) (t : Nat) (n : Note) (rest : List (Nat × Ev)) (h : keyOf (onEv n) ∉ on) :
    sound on ((t, onEv n) :: rest) = sound (keyOf (onEv n) :: on) rest := by
  simp only [onEv, sound, keyOf] at h ⊢
  rw [if_neg h]

theorem sound_off (on : List (Nat × Nat)) (t : Nat) (n : Note) (rest : List (Nat × Ev)) (h : keyOf (onEv n) ∈ on) :
    sound on ((t, offEv n) :: rest) = sound (on.erase (keyOf (onEv n))) rest := by
  simp only [offEv, onEv, sound, keyOf] at h ⊢
  rw [if_pos h]

theorem sound_ons (ns : List Note) (t : Nat) (rest : List (Nat × Ev)) : ∀ on : List (Nat × Nat),
    (ns.map fun m => keyOf (onEv m)).Nodup → (∀ m ∈ ns, keyOf (onEv m) ∉ on) →
    sound on (ns.map (fun m => (t, onEv m)) ++ rest) = sound ((ns.map fun m => keyOf (onEv m)).reverse ++ on) rest := by
  induction ns with
  | nil => intro on _ _; rfl
  | cons n ns ih =>
    intro on hnd hfresh
    rw [List.map_cons, List.nodup_cons] at hnd
    obtain ⟨hn, ht⟩ := List.forall_mem_cons.1 hfresh
    rw [List.map_cons, List.cons_append, sound_on on t n _ hn, ih _ hnd.2]
    · simp
    · intro m hm
      rw [List.mem_cons, not_or]
      exact ⟨fun heq => hnd.1 (List.mem_map.2 ⟨m, hm, heq⟩), ht m hm⟩

theorem sound_offs (ns : List Note) (t : Nat) (rest : List (Nat × Ev)) : ∀ on : List (Nat × Nat),
    (ns.map fun m => keyOf (onEv m)).Nodup → (∀ m ∈ ns, keyOf (onEv m) ∈ on) →
    sound on (ns.map (fun m => (t, offEv m)) ++ rest) =
      sound ((ns.map fun m => keyOf (onEv m)).foldl List.erase on) rest := by
  induction ns with
  | nil => intro on _ _; rfl
  | cons n ns ih =>
    intro on hnd hmem
    rw [List.map_cons, List.nodup_cons] at hnd
    obtain ⟨hn, ht⟩ := List.forall_mem_cons.1 hmem
    rw [List.map_cons, List.cons_append, sound_off on t n _ hn, ih _ hnd.2, List.map_cons, List.foldl_cons]
    exact fun m hm => (List.mem_erase_of_ne fun heq => hnd.1 (List.mem_map.2 ⟨m, hm, heq⟩)).2 (ht m hm)

def distinctKeys (es : List MEntry) : Prop := ∀ e ∈ es, (e.notes.map fun m => keyOf (onEv m)).Nodup

theorem thread_balanced {α σ : Type} {f : σ → α → List (Nat × Ev) × σ} {xs : List α}
    (h : ∀ x ∈ xs, ∀ s rest, sound [] ((f s x).1 ++ rest) = sound [] rest) (s : σ) (rest : List (Nat × Ev)) :
    sound [] ((thread f s xs).1 ++ rest) = sound [] rest :=
  (thread_ind (I := fun _ => True) (P := fun l => ∀ rest, sound [] (l ++ rest) = sound [] rest) (fun _ => rfl)
    (fun a b ha hb rest => by rw [List.append_assoc, ha, hb]) (fun x hx s _ => ⟨h x hx s, trivial⟩) s trivial).1 rest

theorem entry_balanced (e : MEntry) (hnd : (e.notes.map fun m => keyOf (onEv m)).Nodup) (now : Nat)
    (rest : List (Nat × Ev)) : sound [] ((layEntry now e).1 ++ rest) = sound [] rest := by
  simp only [layEntry, List.append_assoc]
  -- the note-ons push the keys, the note-offs erase them in the same order: nothing is left
  rw [sound_ons e.notes now _ [] hnd (by simp),
    sound_offs e.notes _ rest _ hnd fun m hm => by simpa using ⟨m, hm, rfl⟩, foldl_erase_reverse _ hnd]

/-- **no note hangs or overlaps itself**: when the notes of every entry have distinct (channel, pitch) keys
    (`distinctKeys`), the laid-out music, played from silence, never starts a sounding key again, never stops a silent
    one, and ends in silence -/
theorem entries_balanced (es : List MEntry) (hd : distinctKeys es) : ∀ (now : Nat) (rest : List (Nat × Ev)),
    sound [] ((layEntries now es).1 ++ rest) = sound [] rest := by
  intro now rest
  exact layEntries_eq ▸ thread_balanced (fun e he now => entry_balanced e (hd e he) now) now rest

theorem bars_balanced (bs : List MBar) (hd : ∀ b ∈ bs, distinctKeys b.entries) (now : Nat) (rest : List (Nat × Ev)) :
    sound [] ((layBars now bs).1 ++ rest) = sound [] rest :=
  layBars_eq ▸ thread_balanced (fun b hb now => entries_balanced b.entries (hd b hb) now) now rest

theorem passes_balanced (bs : List MBar) (hd : ∀ b ∈ bs, distinctKeys b.entries) : ∀ (k now : Nat),
    sound [] (layPasses bs k now).1 = some [] := by
  intro k now
  have := thread_balanced (xs := List.replicate k ()) (fun _ _ now => bars_balanced bs hd now) now []
  rwa [← layPasses_eq, List.append_nil] at this

def demoNote (nm : String) (o ch vel : Int) : Note := ⟨nm.toList, o, ch, vel⟩
def demoTrack : MTrack :=
  ⟨"lead".toList, some 42,
   [⟨"Eb".toList, 3, 4, [⟨4, [], none⟩, ⟨4, [demoNote "Eb" 4 9 100, demoNote "G" 4 2 64], none⟩, ⟨8, [], none⟩, ⟨8, [demoNote "Bb" 3 9 1], none⟩]⟩,
    ⟨"f#".toList, 6, 8, [⟨8 / 3 * 2, [demoNote "C#" 5 0 127], none⟩]⟩]⟩

example : writeTrack demoTrack 120 1 =
    .ok (fileBytes [⟨tempoEv 120 :: (specPasses (fun s => specTrack s demoTrack) 2 s0).1, 54, 0, false, 42⟩]) := by
  decide +kernel
example : (parseSmf ((writeTrack demoTrack 120 1).toOption.getD [])).map (fun f => (f.format, f.ntracks, f.division, f.tracks.map List.length)) =
    some (1, 1, 72, [31]) := by decide +kernel
example : (layPasses demoTrack.bars 1 0).1.map (·.1) = [72, 72, 144, 144, 180, 216, 216, 270] := by decide +kernel

end Mingus.Props.C16
