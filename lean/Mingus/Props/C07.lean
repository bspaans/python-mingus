import Mingus.Props.C07Forms
import Mingus.Props.C06
/-
  C07 — chord recognition inverts construction in every inversion and output form.

  `recognise_all` and `triads_sound` speak of finite domains (every shorthand × the 21 roots with at most one accidental ×
  every rotation × both forms; all 21³ triples), but only a small core of each is evaluated.  What holds for all inputs is in
  C07Forms; C06 gives the parse of `root ++ shorthand` on every root.  What remains finite is evaluated by the kernel: on the
  chord as built the recogniser's step names a shorthand with the chord's own builder (`root_position_named`, 51 × 21
  chords of three or more notes), and one step on an ordered triple only names chords that contain the triple
  (`triadStep_sound` in C07Forms).
-/
namespace Mingus.Props.C07
open Mingus Mingus.Notes Mingus.Chords Mingus.Keys

def namesBuilder (es : List NoteExpr) (r : Str) : Bool :=
  match evalBuilder es r with
  | .ok ch =>
    ch.length < 3 || (ch.length ≤ 6 &&
    match stepOf ch.length ch 1 with
    | .ok hs => hs.any fun h => h.root == r && chordShorthand.lookup h.short == some es
    | _ => false)
  | _ => false

theorem root_position_named : ∀ row ∈ chordShorthand, ∀ r ∈ roots21, namesBuilder row.2 r = true := by decide +kernel

/-- what `recogOK` asks of the name at one index, for a hit found on the chord's root under a name with its builder -/
theorem named_hit (k' : Str) (es : List NoteExpr) (hk' : chordShorthand.lookup k' = some es) (l : Char) (t : Str)
    (hv : valid (l :: t) = true) (ch : List Str) (hch : evalBuilder es (l :: t) = .ok ch) (i : Nat)
    (hok : HitOK ⟨k', i + 1, l :: t⟩) :
    (!((l :: t) ++ k').contains '|' && Chords.fromShorthand ((l :: t) ++ k') == .ok ch &&
      (match chordMeaning.lookup (splitRoot ((l :: t) ++ k')).2, intDesc.lookup (i + 1) with
       | some m, some d => Hit.longName ⟨k', i + 1, l :: t⟩ == (splitRoot ((l :: t) ++ k')).1 ++ m ++ d
       | _, _ => false)) = true := by
  have hk := mem_of_lookup hk'
  obtain ⟨-, hh, hb, -⟩ := (C06.key_plain _ hk).1
  have hsplit : splitRoot ((l :: t) ++ k') = (l :: t, k') := by
    simp only [splitRoot, List.cons_append, takeWhile_acc t k' (valid_cons.1 hv).2 hh, List.drop_left]
  have hbar : ((l :: t) ++ k').contains '|' = false := by
    rw [Bool.eq_false_iff, Ne, List.contains_iff_mem, List.mem_append]
    rintro (h | h)
    · exact (root_chars hv _ h).2.2 rfl
    · exact hb h
  obtain ⟨m, d, hm, hd⟩ := hok.long
  rw [hbar, C06.plain_parse k' es hk l t hv, hch, hsplit, hm, hd]
  simp [Hit.longName, hm, hd]

/-- every constructible chord of at least three notes (all shorthands but `5`), on each of the 21 roots, in every
    inversion, is recognised in both forms -/
theorem recognise_all : ∀ row ∈ chordShorthand, ∀ r ∈ roots21, ∀ i, i < 7 → recogOK r row.1 i = true := by
  intro ⟨k, es⟩ hk r hr i hi
  have hcore := root_position_named (k, es) hk r hr
  have hv := roots21_valid r hr
  obtain ⟨l, t, rfl⟩ := exists_cons_of_valid hv
  obtain ⟨ch, _, _, hch, hspec, _⟩ := C06.builder_formula k es hk l t hv
  simp only [recogOK, C06.plain_parse k es hk l t hv, hch]
  simp only [namesBuilder, hch] at hcore
  split
  · rfl
  · next hlen =>
    simp only [Bool.or_eq_true, decide_eq_true_eq, not_or, Nat.not_lt, Nat.not_le] at hlen
    obtain ⟨h3, hin⟩ := hlen
    -- the evaluated core: the step on the chord as built has a hit on the root whose name has the builder `es`
    rw [Bool.or_eq_true, decide_eq_true_eq, Bool.and_eq_true, decide_eq_true_eq] at hcore
    obtain ⟨h6, hcore⟩ := hcore.resolve_left (by omega)
    split at hcore
    · next hs1 hs =>
      obtain ⟨h1, hm1, hh1⟩ := List.any_eq_true.1 hcore
      obtain ⟨hroot, hlook⟩ : h1.root = l :: t ∧ chordShorthand.lookup h1.short = some es := by simpa using hh1
      -- the same hit, as try `i + 1`, among the hits on inversion `i`
      have hc : NotesOf ch.length ch := ⟨rfl, matchSpec_valid hspec⟩
      obtain ⟨hits, p, hh, hok, -, hS, hL⟩ := determine_valid (hc.rotL i) h3 (by omega) false
      have hmem := rotation_hit hc h3 h6 hin hs hm1 hh
      obtain ⟨idx, hidx, hget⟩ := List.mem_iff_getElem.1 hmem
      have e (f : Hit → Str) : (hits.map f ++ p).getD idx [] = f ⟨h1.short, i + 1, l :: t⟩ := by
        simp [List.getD_eq_getElem?_getD, List.getElem?_append_left, hidx, hget, retry, hroot]
      rw [hS, hL, Bool.and_eq_true]
      refine ⟨by simp, List.any_eq_true.2 ⟨idx, List.mem_range.2 (by simp; omega), ?_⟩⟩
      rw [e, e]
      exact named_hit h1.short es hlook l t hv ch hch i (hroot ▸ hok _ hmem)
    · cases hcore

/-- every three-note input over the 21 names: equal lengths, no error, every returned name denotes a chord
    containing the three notes -/
theorem triads_sound : ∀ a ∈ roots21, ∀ b ∈ roots21, ∀ c ∈ roots21, tripleOK a b c = true := by
  intro a ha b hb c hc
  have hn : NotesOf 3 [a, b, c] := ⟨rfl, by simp [roots21_valid a ha, roots21_valid b hb, roots21_valid c hc]⟩
  obtain ⟨hits, p, hh, -, hp, hS, hL⟩ := determine_valid hn (by omega) (by omega) false
  cases hp
  unfold tripleOK
  rw [hS, hL]
  simp only [List.append_nil, List.length_map, beq_self_eq_true, Bool.true_and, List.all_eq_true, List.mem_map]
  rintro _ ⟨h, hm, rfl⟩
  obtain ⟨j, hj, hs, hst, hmem⟩ := exhaust_mem (last := 3) (by omega) hh hm
  have : ∃ ch, Chords.fromShorthand (Hit.shortName h) = .ok ch ∧ ch.contains a = true ∧ ch.contains b = true ∧
      ch.contains c = true := by
    -- round `j` sees the triple rotated right `j` times: a b c, c a b, b c a
    match j, hj with
    | 0, _ => exact triadStep_sound ha hb hc hst hmem
    | 1, _ => obtain ⟨ch, e, h1, h2, h3⟩ := triadStep_sound hc ha hb hst hmem; exact ⟨ch, e, h2, h3, h1⟩
    | 2, _ => obtain ⟨ch, e, h1, h2, h3⟩ := triadStep_sound hb hc ha hst hmem; exact ⟨ch, e, h3, h1, h2⟩
  obtain ⟨ch, e, h1, h2, h3⟩ := this
  rw [e]
  simp only [h1, h2, h3, Bool.and_self]

/-- chords of 0, 1 or 2 notes: the documented trivial answers, in both forms -/
theorem trivial_answers (a b : Str) (sh ni np : Bool) :
    determine [] sh ni np = .ok [] ∧ determine [a] sh ni np = .ok [a] ∧
    determine [a, b] sh ni np = (Intervals.determine a b false).map (fun d => [d]) := by
  refine ⟨rfl, rfl, ?_⟩
  simp only [determine]
  cases Intervals.determine a b false <;> rfl

example : determine (["E", "G", "C"].map String.toList) false false false = .ok [lit "C major triad, first inversion"] := by
  decide +kernel
example : recogOK (lit "Eb") (lit "m7b5") 2 = true := by decide +kernel

end Mingus.Props.C07
