import Mingus.Props.C19
import Mingus.Lemmas.Note
/-
  C19 — LilyPond entries (what `from_NoteContainer` writes for one bar entry): an independent reader recovers the
  notes — rest, single note or chord of any size, any accidentals, any octaves — and, for every value of the vocabulary, the
  base value and the dots (`readEntry_dotted`, `readEntry_tuplet`).  What the bar reader needs of an entry's text is here
  too: it is one token (`nextTok`, `scan`), has no brace and does not begin with a backslash (`IsEntry`, `entry_tok`).
-/
namespace Mingus.Props.C19
open Mingus Mingus.Export Mingus.Containers

def splitSp : Str → List Str
  | [] => [[]]
  | c :: t => if c = ' ' then [] :: splitSp t else
    match splitSp t with
    | h :: r => (c :: h) :: r
    | [] => [[c]]

theorem splitSp_ne_nil (x : Str) : splitSp x ≠ [] := by
  induction x with
  | nil => simp [splitSp]
  | cons c t ih =>
    simp only [splitSp]
    split
    · simp
    · cases h : splitSp t with
      | nil => exact absurd h ih
      | cons a b => simp

theorem splitSp_eq : splitSp = Note.splitOn ' ' := by
  funext x
  induction x with
  | nil => rfl
  | cons c t ih => simp only [splitSp, Note.splitOn, ih]; cases Note.splitOn ' ' t <;> rfl

theorem splitSp_intercalate (parts : List Str) (hne : parts ≠ []) (h : ∀ p ∈ parts, ' ' ∉ p) :
    splitSp ((lit " ").intercalate parts) = parts := by
  rw [splitSp_eq]
  induction parts with
  | nil => exact absurd rfl hne
  | cons p ps ih =>
    obtain ⟨hp, hps⟩ := List.forall_mem_cons.1 h
    cases ps with
    | nil => simpa [List.intercalate] using Note.splitOn_no_sep ' ' p hp
    | cons q qs =>
      rw [List.intercalate_cons_cons, List.append_assoc]
      exact (Note.splitOn_append ' ' p _ hp).trans (congrArg _ (ih (by simp) hps))

theorem mem_intercalate (parts : List Str) (ch : Char) (hc : ch ∈ (lit " ").intercalate parts) :
    ch = ' ' ∨ ∃ p ∈ parts, ch ∈ p := by
  induction parts with
  | nil => simp [List.intercalate] at hc
  | cons p ps ih =>
    cases ps with
    | nil => exact .inr ⟨p, by simp, by simpa [List.intercalate] using hc⟩
    | cons q qs =>
      rw [List.intercalate_cons_cons, List.mem_append, List.mem_append] at hc
      rcases hc with (hc | hc) | hc
      · exact .inr ⟨p, by simp, hc⟩
      · exact .inl (List.mem_singleton.1 hc)
      · exact (ih hc).imp_right fun ⟨p', hp', hcp⟩ => ⟨p', by simp [hp'], hcp⟩

def GoodNote (n : Note) : Prop := ∃ l t, n.name = l :: t ∧ isUpperLetter l ∧ accOnly t

def pitchOf (n : Note) : Char × Str × Int := (lowerChar (n.name.headD 'C'), n.name.drop 1, n.octave)

/-- an independent reader of the note part of an entry: `r`, one pitch, or `<p p …>` -/
def readNotes (x : Str) : Option (List (Char × Str × Int)) :=
  match x with
  | ['r'] => some []
  | '<' :: rest =>
    (match rest.getLast? with
     | some '>' => (splitSp rest.dropLast).mapM readPitch
     | _ => none)
  | _ => (readPitch x).map fun p => [p]

/-- the token `from_Note` writes for a note with a proper name -/
def noteTok (n : Note) : Str := lowerChar (n.name.headD 'C') :: (lyAcc (n.name.drop 1) ++ lyOctave n.octave)

theorem readPitch_lyNote (n : Note) (h : GoodNote n) :
    lyNote n true false = .ok (noteTok n) ∧ readPitch (noteTok n) = some (pitchOf n) ∧ noteTok n ⊆ pitchChars := by
  obtain ⟨l, t, hn, hl, ht⟩ := h
  obtain ⟨_, o, ch, vel⟩ := n
  subst hn
  exact ⟨rfl, readPitch_tok l hl t ht o, List.cons_subset.2 ⟨(lowerChar_upper hl).2, List.append_subset.2
    ⟨lyAcc_sub t, fun c hc => (by decide : "',".toList ⊆ pitchChars) (lyOctave_sub o hc)⟩⟩⟩

/-- the three cases of `from_NoteContainer`, on the tokens of the notes -/
def notesText : List Str → Str
  | [] => lit "r"
  | [p] => p
  | ps => '<' :: ((lit " ").intercalate ps ++ ['>'])

def notesChars : Str := "abcdefgis',r<> ".toList

theorem notesText_sub (ps : List Str) (h : ∀ p ∈ ps, p ⊆ pitchChars) : notesText ps ⊆ notesChars := by
  have hp : pitchChars ⊆ notesChars := by decide
  rcases ps with _ | ⟨p, _ | ⟨q, qs⟩⟩
  · decide
  · exact fun c hc => hp (h p (by simp) hc)
  · refine List.cons_subset.2 ⟨by decide, List.append_subset.2 ⟨fun c hc => ?_, by decide⟩⟩
    rcases mem_intercalate _ c hc with rfl | ⟨p', hp', hcp⟩
    · decide
    · exact hp (h p' hp' hcp)

theorem readNotes_text (ps : List Str) (h : ∀ p ∈ ps, p ⊆ pitchChars) : readNotes (notesText ps) = ps.mapM readPitch := by
  rcases ps with _ | ⟨p, _ | ⟨q, qs⟩⟩
  · rfl
  · -- a pitch token is neither `r` nor starts with `<`
    rcases p with _ | ⟨c, cs⟩
    · simp [notesText, readNotes, readPitch]
    · have := (by decide : ∀ c ∈ pitchChars, c ≠ 'r' ∧ c ≠ '<') c (h _ List.mem_cons_self List.mem_cons_self)
      show readNotes (c :: cs) = _
      unfold readNotes
      split
      · simp_all
      · simp_all
      · cases hr : readPitch (c :: cs) <;> simp [List.mapM_cons, hr]
  · have hsp : ∀ p' ∈ p :: q :: qs, ' ' ∉ p' := fun p' hp' hc => absurd (h p' hp' hc) (by decide)
    simp only [notesText, readNotes, List.getLast?_append, List.getLast?_singleton, Option.some_or, List.dropLast_concat]
    rw [splitSp_intercalate _ (by simp) hsp]

theorem mapM_lyNote (ns : List Note) (h : ∀ n ∈ ns, GoodNote n) :
    (ns.map noteTok).mapM readPitch = some (ns.map pitchOf) ∧ ∀ p ∈ ns.map noteTok, p ⊆ pitchChars := by
  refine ⟨(List.mapM_map ..).trans (mapM_eq_pure fun n hn => (readPitch_lyNote n (h n hn)).2.1), fun p hp => ?_⟩
  obtain ⟨n, hn, rfl⟩ := List.mem_map.1 hp
  exact (readPitch_lyNote n (h n hn)).2.2

theorem readNotes_lyNC (ns : List Note) (h : ∀ n ∈ ns, GoodNote n) :
    readNotes (notesText (ns.map noteTok)) = some (ns.map pitchOf) ∧ notesText (ns.map noteTok) ⊆ notesChars ∧
      notesText (ns.map noteTok) ≠ [] := by
  obtain ⟨h1, h2⟩ := mapM_lyNote ns h
  refine ⟨by rw [readNotes_text _ h2, h1], notesText_sub _ h2, ?_⟩
  rcases ns with _ | ⟨n, _ | ⟨m, ms⟩⟩ <;> simp [notesText, noteTok, lit]

/-- with a duration or (`d = none`, `dt = []`) without -/
theorem lyNC_eq (c : Option NC) (d : Option Rat) (g : Note → Str) (dt : Str)
    (hp : ∀ n ∈ c.getD [], lyNote n true false = .ok (g n)) (hd : d.elim (.ok []) lyDuration = .ok dt) :
    lyNC c d false = .ok (notesText ((c.getD []).map g) ++ dt) := by
  unfold lyNC
  rcases c with _ | _ | ⟨n, _ | ⟨m, ns⟩⟩
  · cases d <;> exact ok_then rfl (ok_then hd rfl)
  · cases d <;> exact ok_then rfl (ok_then hd rfl)
  · cases d <;> exact ok_then (hp n (by simp)) (ok_then hd rfl)
  · cases d <;> exact ok_then (ok_then (mapM_eq_pure (g := g) hp) rfl) (ok_then hd (by simp [notesText, lit]))

def durStart (c : Char) : Bool := c = '\\' || c.isDigit

def splitDur (x : Str) : Str × Str := (x.takeWhile (fun c => !durStart c), x.dropWhile (fun c => !durStart c))

theorem splitDur_append (a b : Str) (ha : ∀ c ∈ a, durStart c = false) (hb : ∀ c ∈ b.head?, durStart c = true) :
    splitDur (a ++ b) = (a, b) := by
  have h1 : ∀ c ∈ a, (!durStart c) = true := fun c hc => by rw [ha c hc]; rfl
  rw [splitDur, List.takeWhile_append_of_pos h1, List.dropWhile_append_of_pos h1]
  rcases b with _ | ⟨c, cs⟩
  · simp
  · simp [hb c rfl]

/-- base value (`\longa`, `\breve` or a decimal number) and the number of trailing dots -/
def readDur (x : Str) : Option (Rat × Nat) :=
  let dots := (x.reverse.takeWhile (· = '.')).length
  let body := x.take (x.length - dots)
  if body = lit "\\longa" then some (1/4, dots)
  else if body = lit "\\breve" then some (1/2, dots)
  else (Note.parseNat? body).map fun n => ((n : Rat), dots)

def readEntry (x : Str) : Option (List (Char × Str × Int) × Option (Rat × Nat)) :=
  let p := splitDur x
  match readNotes p.1 with
  | none => none
  | some notes => if p.2 = [] then some (notes, none) else (readDur p.2).map fun d => (notes, some d)

def durText (b : Rat) (d : Nat) : Str := baseText b ++ List.replicate d '.'

theorem readDur_table : ∀ b ∈ bases, ∀ d ∈ [0, 1, 2],
    readDur (durText b d) = some (b, d) ∧ (∀ c ∈ (durText b d).head?, durStart c = true) ∧ durText b d ≠ [] ∧
    Free " <>{}".toList (durText b d) := by
  decide +kernel

/-- `v` is a value of the vocabulary: base `b` with `d` dots (ratio 1/1), or a tuplet `r` of base `b` -/
def Vocab (v : Rat) (b : Rat) (d : Nat) (r : Nat × Nat) : Prop :=
  (b ∈ bases ∧ d ∈ [0, 1, 2] ∧ v = Value.dotsF b d ∧ r = (1, 1)) ∨
  (b ∈ bases.drop 2 ∧ d = 0 ∧ r ∈ [(3, 2), (5, 4), (7, 4)] ∧ v = Value.tuplet b r.1 r.2)

theorem of_toOption_map {α β} {x : Except Err α} {f : α → β} {y : β} (h : x.toOption.map f = some y) :
    ∃ p, x = .ok p ∧ f p = y := by
  cases x with
  | error e => cases h
  | ok p => exact ⟨p, rfl, Option.some.inj h⟩

theorem Vocab.spec {v b : Rat} {d : Nat} {r : Nat × Nat} (h : Vocab v b d r) :
    b ∈ bases ∧ d ∈ [0, 1, 2] ∧ lyDuration v = .ok (durText b d) ∧
      ∃ p, Value.determine v = .ok p ∧ (p.2.2.1, p.2.2.2) = r := by
  rcases h with ⟨hb, hd, rfl, rfl⟩ | ⟨hb, rfl, hr, rfl⟩
  · obtain ⟨t1, t2⟩ := duration_table.1 b hb d hd
    exact ⟨hb, hd, t1, of_toOption_map t2⟩
  · obtain ⟨t1, t2⟩ := duration_table.2 b hb r hr
    obtain ⟨p, hp, e⟩ := of_toOption_map t2
    exact ⟨List.mem_of_mem_drop hb, by simp, by simpa [durText] using t1, p, hp, by simp [Prod.ext_iff] at e ⊢; exact e.2.2⟩

/-! ### tokens: blanks separate, except inside `<…>` -/

def chordStep (inCh : Bool) (c : Char) : Bool := if c = '<' then true else if c = '>' then false else inCh

def nextTok : Str → Bool → Str × Str
  | [], _ => ([], [])
  | c :: cs, inCh =>
    if c = ' ' ∧ inCh = false then ([], cs)
    else (c :: (nextTok cs (chordStep inCh c)).1, (nextTok cs (chordStep inCh c)).2)

/-- scanning `a` from state `s` meets no blank outside a chord; the state reached -/
def scan : Str → Bool → Option Bool
  | [], s => some s
  | c :: cs, s => if c = ' ' ∧ s = false then none else scan cs (chordStep s c)

theorem nextTok_append (a b : Str) : ∀ (s : Bool), scan a s = some false → nextTok (a ++ ' ' :: b) s = (a, b) := by
  induction a with
  | nil => intro s h; simp only [scan, Option.some.injEq] at h; subst h; simp [nextTok]
  | cons c cs ih =>
    intro s h
    simp only [scan] at h
    split at h
    · cases h
    · rename_i hc
      simp only [List.cons_append, nextTok, hc, if_false, ih _ h]

theorem scan_append (a b : Str) : ∀ s, scan (a ++ b) s = (scan a s).bind (scan b) := by
  induction a with
  | nil => intro s; rfl
  | cons c cs ih =>
    intro s
    simp only [List.cons_append, scan]
    split
    · rfl
    · exact ih _

theorem scan_free (a : Str) (s : Bool) (h : Free "<>".toList a) (hs : s = false → ' ' ∉ a) : scan a s = some s := by
  induction a with
  | nil => rfl
  | cons c cs ih =>
    obtain ⟨hc, hcs⟩ := List.forall_mem_cons.1 h
    have hc : c ≠ '<' ∧ c ≠ '>' := by simpa using hc
    have hb : ¬ (c = ' ' ∧ s = false) := fun e => hs e.2 (by simp [e.1])
    rw [scan, if_neg hb, chordStep, if_neg hc.1, if_neg hc.2]
    exact ih hcs fun e hm => hs e (by simp [hm])

theorem scan_plain (a : Str) (h : Free " <>".toList a) (s : Bool) : scan a s = some s :=
  scan_free a s (h.mono (by decide)) fun _ hm => h _ hm (by decide)

theorem scan_notesText (ps : List Str) (h : ∀ p ∈ ps, p ⊆ pitchChars) : scan (notesText ps) false = some false := by
  have hp : Free " <>".toList pitchChars := by decide
  rcases ps with _ | ⟨p, _ | ⟨q, qs⟩⟩
  · decide
  · exact scan_plain p (hp.of_sub (h p (by simp))) false
  · have hi : Free "<>".toList ((lit " ").intercalate (p :: q :: qs)) := fun c hc => by
      rcases mem_intercalate _ c hc with rfl | ⟨p', hp', hcp⟩
      · decide
      · exact (hp.mono (by decide)).of_sub (h p' hp') c hcp
    show scan ('<' :: ((lit " ").intercalate (p :: q :: qs) ++ ['>'])) false = _
    rw [scan, if_neg (by decide), scan_append, show chordStep false '<' = true from rfl, scan_free _ true hi nofun]
    rfl

structure IsEntry (tok : Str) (notes : List (Char × Str × Int)) (d : Rat × Nat) : Prop where
  reads : readEntry tok = some (notes, some d)
  one : scan tok false = some false
  nobrace : Free "{}".toList tok
  head : ∃ c cs, tok = c :: cs ∧ c ≠ '\\' ∧ c ≠ '}'

abbrev REntry := List (Char × Str × Int) × (Rat × Nat) × (Nat × Nat)

def Reads (e : LEntry) (x : REntry) : Prop :=
  (∀ n ∈ e.content.getD [], GoodNote n) ∧ Vocab e.value x.2.1.1 x.2.1.2 x.2.2 ∧ x.1 = (e.content.getD []).map pitchOf

def entryTok (e : LEntry) (x : REntry) : Str := notesText ((e.content.getD []).map noteTok) ++ durText x.2.1.1 x.2.1.2

theorem entry_tok (e : LEntry) (x : REntry) (h : Reads e x) :
    lyNC e.content (some e.value) false = .ok (entryTok e x) ∧ IsEntry (entryTok e x) x.1 x.2.1 ∧
    ∃ p, Value.determine e.value = .ok p ∧ (p.2.2.1, p.2.2.2) = x.2.2 := by
  obtain ⟨hg, hv, hx⟩ := h
  obtain ⟨hb, hd, hdur, hp⟩ := hv.spec
  obtain ⟨n1, n2, n3⟩ := readNotes_lyNC _ hg
  obtain ⟨r1, r2, r3, r4⟩ := readDur_table _ hb _ hd
  refine ⟨lyNC_eq e.content (some e.value) noteTok _ (fun n hn => (readPitch_lyNote n (hg n hn)).1) hdur, ⟨?_, ?_, ?_, ?_⟩, hp⟩
  · simp only [entryTok, readEntry, splitDur_append _ _ (fun ch hc => (by decide : ∀ c ∈ notesChars, durStart c = false) ch (n2 hc)) r2,
      n1, r3, if_false, r1, Option.map_some, hx]
  · rw [entryTok, scan_append, scan_notesText _ (mapM_lyNote _ hg).2]
    exact scan_plain _ (r4.mono (by decide)) false
  · exact ((by decide : Free "{}".toList notesChars).of_sub n2).append (r4.mono (by decide))
  · rcases hnt : notesText ((e.content.getD []).map noteTok) with _ | ⟨c, cs⟩
    · exact absurd hnt n3
    · exact ⟨c, cs ++ durText x.2.1.1 x.2.1.2, by simp [entryTok, hnt],
        (by decide : ∀ c ∈ notesChars, c ≠ '\\' ∧ c ≠ '}') c (n2 (hnt ▸ List.mem_cons_self))⟩

/-- **an entry with a duration**: for any container (rest, note, chord of any size) and every value of the vocabulary —
    base values longa … 128th with 0–2 dots — the text `from_NoteContainer` writes reads back as the notes, the base value and
    the dots -/
theorem readEntry_dotted (c : Option NC) (h : ∀ n ∈ c.getD [], GoodNote n) (b : Rat) (hb : b ∈ bases) (d : Nat) (hd : d ∈ [0, 1, 2]) :
    (lyNC c (some (Value.dotsF b d)) false).toOption.bind readEntry = some ((c.getD []).map pitchOf, some (b, d)) := by
  obtain ⟨h1, h2, -⟩ := entry_tok ⟨Value.dotsF b d, c⟩ (_, (b, d), (1, 1)) ⟨h, .inl ⟨hb, hd, rfl, rfl⟩, rfl⟩
  rw [h1]; exact h2.reads

/-- … and for every triplet, quintuplet and septuplet of the values 1 … 128 (whose ratio is `duration_table`'s) -/
theorem readEntry_tuplet (c : Option NC) (h : ∀ n ∈ c.getD [], GoodNote n) (b : Rat) (hb : b ∈ bases.drop 2)
    (r : Nat × Nat) (hr : r ∈ [(3, 2), (5, 4), (7, 4)]) :
    (lyNC c (some (Value.tuplet b r.1 r.2)) false).toOption.bind readEntry = some ((c.getD []).map pitchOf, some (b, 0)) := by
  obtain ⟨h1, h2, -⟩ := entry_tok ⟨Value.tuplet b r.1 r.2, c⟩ (_, (b, 0), r) ⟨h, .inr ⟨hb, rfl, hr, rfl⟩, rfl⟩
  rw [h1]; exact h2.reads

end Mingus.Props.C19
