import Mingus.Lemmas.Containers
/-
  C14 — tracks and compositions accumulate music faithfully.
  Theorems about `Track.addNotes` histories of any length, the instrument gate and the composition's track selection.
  `addNotes_eq` is the equation for `add_notes` that the rest is read off from.
  `from_chords` is in C14Chords.lean, "every bar but the last is full" in C14Full.lean.
-/
namespace Mingus.Props.C14
open Mingus Mingus.Containers

/-- what `Track.get_notes` yields, without the start beats -/
def items (t : Track) : List (Rat × Option NC) := (t.getNotes).map fun e => (e.value, e.content)

theorem empty_bar_not_full : ({} : Bar).isFull = false := by decide +kernel

theorem prepared_cases (t : Track) :
    t.bars = [] ∧ Track.prepared t = [{}] ∨
    ∃ last, t.bars.getLast? = some last ∧
      (last.isFull = false ∧ Track.prepared t = t.bars ∨
       last.isFull = true ∧
        Track.prepared t = t.bars ++ [{ key := last.key, meter := last.meter, length := last.length }]) := by
  unfold Track.prepared
  cases t.bars with
  | nil => exact .inl ⟨rfl, by simp [empty_bar_not_full]⟩
  | cons a l =>
    have hl := List.getLast?_eq_some_getLast (List.cons_ne_nil a l)
    refine .inr ⟨_, hl, ?_⟩
    simp only [List.isEmpty_cons, Bool.false_eq_true, if_false, hl, Option.getD_some]
    cases ((a :: l).getLast _).isFull <;> simp

theorem prepared_ne (t : Track) : Track.prepared t ≠ [] := by
  rcases prepared_cases t with ⟨_, h⟩ | ⟨last, hl, ⟨_, h⟩ | ⟨_, h⟩⟩ <;> rw [h]
  · simp
  · exact List.ne_nil_of_mem (List.mem_of_getLast? hl)
  · simp

theorem prepared_items (t : Track) : (Track.prepared t).flatMap (·.entries) = t.getNotes := by
  rcases prepared_cases t with ⟨h0, h⟩ | ⟨last, -, ⟨_, h⟩ | ⟨_, h⟩⟩ <;> simp [Track.getNotes, *]

theorem prepared_split (t : Track) :
    (Track.prepared t).dropLast ++ [(Track.prepared t).getLast?.getD {}] = Track.prepared t := by
  rw [List.getLast?_eq_some_getLast (prepared_ne t)]
  exact List.dropLast_concat_getLast _

/-- What `add_notes` returns when it does not raise.  Accepted and refused need no separate branches: a refusing bar is
    left as it was (`Bar.place_refused`). -/
def added (t : Track) (c : Option NC) (v : Rat) : Bool × Track :=
  let r := ((Track.prepared t).getLast?.getD {}).place c v
  (r.1, { t with bars := (Track.prepared t).dropLast ++ [r.2] })

theorem addNotes_eq (t : Track) (c : Option NC) (v : Rat) :
    t.addNotes c v =
      if ∃ i ∈ t.instrument, ∃ nc ∈ c, i.canPlay nc = false then .error .instrumentRange else .ok (added t c v) := by
  have : (let r := ((Track.prepared t).getLast?.getD {}).place c v
      if r.1 then (true, { t with bars := (Track.prepared t).dropLast ++ [r.2] })
      else (false, { t with bars := Track.prepared t })) = added t c v := by
    simp only [added]
    split
    · rename_i h; rw [h]
    · rename_i h; rw [Bool.not_eq_true] at h; rw [h, Bar.place_refused h, prepared_split]
  rw [← this]
  unfold Track.addNotes
  cases t.instrument <;> cases c <;> try rfl
  rename_i i nc
  cases h : i.canPlay nc <;> simp [h] <;> rfl

theorem addNotes_ok {t : Track} {c : Option NC} {v : Rat} {r : Bool × Track} (h : t.addNotes c v = .ok r) :
    r = added t c v := by
  rw [addNotes_eq] at h
  split at h <;> cases h
  rfl

theorem added_items (t : Track) (c : Option NC) (v : Rat) :
    items (added t c v).2 = items t ++ if (added t c v).1 then [(v, c)] else [] := by
  have h := prepared_items t
  rw [← prepared_split t] at h
  simp only [items, added, Track.getNotes, List.flatMap_append, List.flatMap_cons, List.flatMap_nil, List.append_nil,
    Bar.place_entries, ← List.append_assoc] at h ⊢
  rw [h]
  split <;> simp [*]

theorem addNotes_ok_items {t t' : Track} {c : Option NC} {v : Rat} {ok : Bool} (h : t.addNotes c v = .ok (ok, t')) :
    t'.instrument = t.instrument ∧ items t' = items t ++ if ok then [(v, c)] else [] := by
  cases addNotes_ok h
  exact ⟨rfl, added_items t c v⟩

theorem addNotes_items (t : Track) (c : Option NC) (v : Rat) (hgate : ∀ i nc, t.instrument = some i → c = some nc → i.canPlay nc = true) :
    ∃ ok t', t.addNotes c v = .ok (ok, t') ∧ t'.instrument = t.instrument ∧
      items t' = (if ok then items t ++ [(v, c)] else items t) := by
  refine ⟨(added t c v).1, (added t c v).2, ?_, rfl, ?_⟩
  · rw [addNotes_eq, if_neg]
    rintro ⟨i, hi, nc, hc, h⟩
    simp [hgate i nc hi hc] at h
  · rw [added_items]; split <;> simp

def run (t : Track) : List (Option NC × Rat) → List Bool × Track
  | [] => ([], t)
  | (c, v) :: rest =>
    match t.addNotes c v with
    | .ok (ok, t') => let r := run t' rest; (ok :: r.1, r.2)
    | .error _ => let r := run t rest; (false :: r.1, r.2)

/-- Iterating the track yields exactly the accepted items, in order, with their values and contents - with any
    instrument: an item the instrument rejects is answered `false` by `run` and leaves the track as it was. -/
theorem history_items_any (its : List (Option NC × Rat)) (t : Track) :
    items (run t its).2 = items t ++ ((its.zip (run t its).1).filter (·.2)).map (fun p => (p.1.2, p.1.1)) ∧
    (run t its).1.length = its.length := by
  induction its generalizing t with
  | nil => simp [run]
  | cons it rest ih =>
    obtain ⟨c, v⟩ := it
    simp only [run]
    cases h : t.addNotes c v with
    | error e => simpa [List.zip_cons_cons] using ih t
    | ok r =>
      obtain ⟨ok, t'⟩ := r
      obtain ⟨-, h3⟩ := addNotes_ok_items h
      obtain ⟨ih1, ih2⟩ := ih t'
      refine ⟨?_, by simp [ih2]⟩
      simp only [ih1, h3]
      cases ok <;> simp [List.zip_cons_cons]

theorem history_items (its : List (Option NC × Rat)) (t : Track) (hi : t.instrument = none) :
    items (run t its).2 = items t ++ ((its.zip (run t its).1).filter (·.2)).map (fun p => (p.1.2, p.1.1)) ∧
    (run t its).1.length = its.length := by
  exact history_items_any its t

/-- on a track that has bars, a bar opened by `add_notes` follows a full bar and takes its key and meter, and with the
    meter its length: it is full after exactly as much music as its predecessor -/
theorem new_bar_inherits (t : Track) (h : t.bars ≠ []) :
    (Track.prepared t).length = t.bars.length ∨
    (∃ last fresh, t.bars.getLast? = some last ∧ last.isFull = true ∧ Track.prepared t = t.bars ++ [fresh] ∧
      fresh.key = last.key ∧ fresh.meter = last.meter ∧ fresh.length = last.length ∧ fresh.entries = []) := by
  rcases prepared_cases t with ⟨h0, _⟩ | ⟨last, hl, ⟨_, hp⟩ | ⟨hf, hp⟩⟩
  · exact absurd h0 h
  · exact .inl (by rw [hp])
  · exact .inr ⟨last, _, hl, hf, hp, rfl, rfl, rfl, rfl⟩

theorem gate_rejects (t : Track) (i : Instrument) (nc : NC) (v : Rat) (hi : t.instrument = some i) (h : i.canPlay nc = false) :
    t.addNotes (some nc) v = .error .instrumentRange := by
  rw [addNotes_eq, if_pos ⟨i, hi, nc, rfl, h⟩]

theorem gate_accepts_rest (t : Track) (v : Rat) : ∃ r, t.addNotes none v = .ok r :=
  ⟨_, by rw [addNotes_eq, if_neg (by simp)]⟩

theorem gate_in_range (t : Track) (i : Instrument) (nc : NC) (v : Rat) (hi : t.instrument = some i) (h : i.canPlay nc = true) :
    ∃ r, t.addNotes (some nc) v = .ok r :=
  ⟨_, by rw [addNotes_eq, if_neg (by simp [hi, h])]⟩

theorem canPlay_spec (i : Instrument) (nc : NC) :
    i.canPlay nc = true ↔ (∀ m, i.maxNotes = some m → nc.length ≤ m) ∧ ∀ n ∈ nc, i.lo.pitch ≤ n.pitch ∧ n.pitch ≤ i.hi.pitch := by
  unfold Instrument.canPlay
  cases i.maxNotes <;> simp

/-- false: the bar opened for an item that is then refused stays behind (known finding C14-refused-add-opens-bar) -/
def C14_refusal_full : Prop := ∀ (t t' : Track) (c : Option NC) (v : Rat), t.addNotes c v = .ok (false, t') → t' = t
theorem refusal_counterexample : ¬ C14_refusal_full := by
  intro h
  have := h {} { bars := [{}] } (some [⟨lit "C", 4, 1, 64⟩]) (1 / 2) (by decide +kernel)
  simp at this

theorem addNote_selection (c : Composition) (content : Option NC) (c' : Composition) (h : c.addNote content = .ok c') :
    c'.tracks.length = c.tracks.length ∧ c'.selected = c.selected := by
  simp only [Composition.addNote, bind_eq_ok, pure_eq_ok] at h
  obtain ⟨ts, hts, rfl⟩ := h
  exact ⟨by rw [(mapM_ok hts).1]; simp, rfl⟩

theorem addTrack_selects (c : Composition) (t : Track) :
    (c.addTrack t).tracks = c.tracks ++ [t] ∧ (c.addTrack t).selected = [c.tracks.length] := ⟨rfl, rfl⟩

example : (run { bars := [{ key := lit "Eb", meter := (3, 4), length := 3 / 4 }] }
    [(none, 4), (none, 4), (none, 4), (none, 4), (none, 4)]).2.bars.map (fun b => (b.key, b.meter, b.entries.length)) =
    [(lit "Eb", (3, 4), 3), (lit "Eb", (3, 4), 2)] := by decide +kernel

end Mingus.Props.C14
