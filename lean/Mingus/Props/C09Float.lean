import Mingus.Model.Value
import Mingus.Lemmas.FloatErr
/-
  C09 — `value.add` / `value.subtract` as the code computes them (three divisions and one addition in double arithmetic,
  `Value.addF`, `Value.subtractF`) against the exact statement of the property ("returns the value whose duration is the sum
  of the durations").  (The IEEE model has no overflow or subnormals; the operands of the property are note values.)
  Both bounds rest on `recip_close`, which follows a sum known up to given factors through the last two roundings.
-/
namespace Mingus.Props.C09
open Mingus Mingus.Value
open Mingus.F64 (u u_pos u_lt_one round_pos round_pos_err)

theorem round_between (q : Rat) (hq : 0 < q) : q * (1 - u) ≤ F64.round q ∧ F64.round q ≤ q * (1 + u) := by
  have h := abs_le.1 (round_pos_err q hq)
  constructor <;> linarith

/-- the last two operations of `addF` / `subtractF`: the sum `x` of the rounded durations, within the factors `L`, `H` of
    the exact sum `E`, is rounded, then `1 / ·` is taken and rounded -/
theorem recip_close {E x L H : Rat} (hE : 0 < E) (hL : 0 < L) (lo : E * L ≤ x) (hi : x ≤ E * H) :
    F64.round x ≠ 0 ∧ 0 < F64.div 1 (F64.round x) ∧
    1 - u ≤ F64.div 1 (F64.round x) * E * (H * (1 + u)) ∧ F64.div 1 (F64.round x) * E * (L * (1 - u)) ≤ 1 + u := by
  have hu := u_pos
  have hu1 := u_lt_one
  have hx : 0 < x := (mul_pos hE hL).trans_le lo
  obtain ⟨s1, s2⟩ := round_between x hx
  have hs := round_pos x hx
  set s := F64.round x
  obtain ⟨r1, r2⟩ := round_between (1 / s) (by positivity)
  have hr := round_pos (1 / s) (by positivity)
  rw [F64.div]
  set r := F64.round (1 / s)
  -- r·s is within 1 ± u of (1/s)·s = 1
  have hs1 : 1 / s * s = 1 := one_div_mul_cancel hs.ne'
  have h1 : 1 - u ≤ r * s := by
    have := mul_le_mul_of_nonneg_right r1 hs.le
    rwa [mul_right_comm, hs1, one_mul] at this
  have h2 : r * s ≤ 1 + u := by
    have := mul_le_mul_of_nonneg_right r2 hs.le
    rwa [mul_right_comm, hs1, one_mul] at this
  refine ⟨hs.ne', hr, ?_, ?_⟩
  · calc 1 - u ≤ r * s := h1
      _ ≤ r * (E * H * (1 + u)) := mul_le_mul_of_nonneg_left (s2.trans (mul_le_mul_of_nonneg_right hi (by linarith))) hr.le
      _ = _ := by ring
  · calc r * E * (L * (1 - u)) = r * (E * L * (1 - u)) := by ring
      _ ≤ r * s := mul_le_mul_of_nonneg_left ((mul_le_mul_of_nonneg_right lo (by linarith)).trans s1) hr.le
      _ ≤ _ := h2

theorem addF_eq (a b : Rat) (ha : a ≠ 0) (hb : b ≠ 0) (hs : F64.add (F64.div 1 a) (F64.div 1 b) ≠ 0) :
    addF a b = .ok (F64.div 1 (F64.add (F64.div 1 a) (F64.div 1 b))) := by
  simp [addF, ha, hb, hs]

theorem subtractF_eq (a b : Rat) (ha : a ≠ 0) (hb : b ≠ 0) (hs : F64.sub (F64.div 1 a) (F64.div 1 b) ≠ 0) :
    subtractF a b = .ok (F64.div 1 (F64.sub (F64.div 1 a) (F64.div 1 b))) := by
  simp [subtractF, ha, hb, hs]

/-- **addition**, for ALL positive a, b (no bound on their size): the double computation succeeds and its result r is within
    four units of relative roundoff of the exact value, |r · (1/a + 1/b) − 1| ≤ 4 · 2⁻⁵³ -/
theorem addF_close (a b : Rat) (ha : 0 < a) (hb : 0 < b) :
    ∃ r, addF a b = .ok r ∧ 0 < r ∧ 1 - 4 * u ≤ r * (1 / a + 1 / b) ∧ r * (1 / a + 1 / b) ≤ 1 + 4 * u := by
  obtain ⟨x1, x2⟩ := round_between (1 / a) (by positivity)
  obtain ⟨y1, y2⟩ := round_between (1 / b) (by positivity)
  have hu := u_pos
  obtain ⟨hs, hr, lo, hi⟩ := recip_close (E := 1 / a + 1 / b) (x := F64.round (1 / a) + F64.round (1 / b))
    (L := 1 - u) (H := 1 + u) (by positivity) (by linarith [u_lt_one]) (by linarith) (by linarith)
  refine ⟨_, addF_eq a b ha.ne' hb.ne' hs, hr, ?_, ?_⟩
  · have : (1 - 4 * u) * ((1 + u) * (1 + u)) ≤ 1 - u := by unfold u; norm_num
    exact le_of_mul_le_mul_right (this.trans lo) (by positivity)
  · have : 1 + u ≤ (1 + 4 * u) * ((1 - u) * (1 - u)) := by unfold u; norm_num
    exact le_of_mul_le_mul_right (hi.trans this) (by unfold u; norm_num)

/-- the same, against the exact function `add` of the property -/
theorem addF_close_exact (a b : Rat) (ha : 0 < a) (hb : 0 < b) :
    ∃ r, addF a b = .ok r ∧ |r - add a b| ≤ 4 * u * add a b := by
  obtain ⟨r, h, _, lo, hi⟩ := addF_close a b ha hb
  refine ⟨r, h, ?_⟩
  have hE : 0 < 1 / a + 1 / b := by positivity
  unfold add
  set E := 1 / a + 1 / b
  have hr : r - 1 / E = (r * E - 1) * (1 / E) := by field_simp
  have hT : 0 < 1 / E := by positivity
  rw [hr, abs_mul, abs_of_pos hT]
  have : |r * E - 1| ≤ 4 * u := by rw [abs_le]; constructor <;> linarith
  exact mul_le_mul_of_nonneg_right this hT.le

/-- a zero operand raises ZeroDivisionError, whatever the other operand is -/
theorem addF_zero (a b : Rat) (h : a = 0 ∨ b = 0) : addF a b = .error .zeroDiv ∧ subtractF a b = .error .zeroDiv := by
  unfold addF subtractF; simp [h]

/-- so what the double computation returns is a usable note value -/
theorem addF_ne_zero (a b r : Rat) (h : addF a b = .ok r) : r ≠ 0 := by
  simp only [addF] at h
  split_ifs at h with _ hs
  cases h
  exact F64.div_ne_zero _ _ one_ne_zero hs

/-- equal durations leave nothing: ZeroDivisionError (the code's 1/0.0), for every a -/
theorem subtractF_self (a : Rat) : subtractF a a = .error .zeroDiv := by
  unfold subtractF F64.sub
  split
  · rfl
  · simp [F64.round]

-- the two polynomial facts behind `subtractF_close`, with `t = κ u`
private theorem sub_num_lo {t u : Rat} (ht : 0 ≤ t) (hu : 0 ≤ u) : (1 - (2 * t + 4 * u)) * ((1 + t) * (1 + u)) ≤ 1 - u := by
  nlinarith [mul_nonneg ht hu, mul_nonneg ht ht, mul_nonneg hu hu, mul_nonneg (mul_nonneg ht ht) hu,
    mul_nonneg (mul_nonneg ht hu) hu]

private theorem sub_num_hi {t u : Rat} (ht : 0 ≤ t) (hu : 0 ≤ u) (ht4 : t ≤ 1 / 4) (hu16 : u ≤ 1 / 16) :
    1 + u ≤ (1 + (2 * t + 4 * u)) * ((1 - t) * (1 - u)) := by
  nlinarith [mul_nonneg ht (sub_nonneg.2 ht4), mul_nonneg hu (sub_nonneg.2 ht4),
    mul_nonneg hu (sub_nonneg.2 hu16), mul_nonneg (mul_nonneg ht ht) hu, mul_nonneg (mul_nonneg ht hu) hu]

/-- **subtraction**, for the longer note first (0 < a < b) and durations that do not cancel: with the condition number
    κ ≥ (1/a + 1/b) / (1/a − 1/b) and κ·2⁻⁵³ ≤ 1/4, the double computation succeeds and its result r satisfies
    |r · (1/a − 1/b) − 1| ≤ (2κ + 4) · 2⁻⁵³.  (For the note values of the library κ is small: a half note minus a quarter
    note has κ = 3.)  Without such a condition there is no bound: durations that differ in the last bit cancel. -/
theorem subtractF_close (a b : Rat) (ha : 0 < a) (hab : a < b) (κ : Rat)
    (hκ : 1 / a + 1 / b ≤ κ * (1 / a - 1 / b)) (hκu : κ * u ≤ 1 / 4) :
    ∃ r, subtractF a b = .ok r ∧ 0 < r ∧ 1 - (2 * κ + 4) * u ≤ r * (1 / a - 1 / b) ∧ r * (1 / a - 1 / b) ≤ 1 + (2 * κ + 4) * u := by
  have hb : 0 < b := ha.trans hab
  have hD : 0 < 1 / a - 1 / b := sub_pos.2 (one_div_lt_one_div_of_lt ha hab)
  obtain ⟨x1, x2⟩ := round_between (1 / a) (by positivity)
  obtain ⟨y1, y2⟩ := round_between (1 / b) (by positivity)
  have hu := u_pos
  have hu16 : u ≤ 1 / 16 := by unfold u; norm_num
  have ht0 : 0 ≤ κ * u := by
    refine mul_nonneg (le_of_not_gt fun hneg => ?_) hu.le
    have : 0 < 1 / a + 1 / b := by positivity
    linarith [mul_neg_of_neg_of_pos hneg hD]
  -- the absolute errors of the two roundings add up to at most (1/a + 1/b) u ≤ (1/a - 1/b) κ u
  have hκD := mul_le_mul_of_nonneg_right hκ hu.le
  obtain ⟨hs, hr, lo, hi⟩ := recip_close (x := F64.round (1 / a) - F64.round (1 / b)) (L := 1 - κ * u) (H := 1 + κ * u)
    hD (by linarith) (by linarith) (by linarith)
  refine ⟨_, subtractF_eq a b ha.ne' hb.ne' hs, hr, ?_, ?_⟩
  · rw [add_mul, mul_assoc]
    exact le_of_mul_le_mul_right ((sub_num_lo ht0 hu.le).trans lo) (by positivity)
  · rw [add_mul, mul_assoc]
    exact le_of_mul_le_mul_right (hi.trans (sub_num_hi ht0 hu.le hκu hu16))
      (mul_pos (by linarith) (by linarith [u_lt_one]))

/-- non-vacuity (kernel): a half note minus a quarter note (κ = 3) is the double 4 exactly -/
example : subtractF 2 4 = .ok 4 := by decide +kernel

/-- non-vacuity (kernel): a quarter and an eighth give the double nearest to 8/3 -/
example : addF 4 8 = .ok (6004799503160661 / 2251799813685248) := by decide +kernel

end Mingus.Props.C09
