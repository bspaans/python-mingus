import Mingus.Props.C16Vlq
import Mingus.Lemmas.ListM
/-
  C16 — an independent Standard MIDI File reader (the specification, not mingus's reader) and the theorem that every
  file the model writes from fewer than 2^16 well-formed tracks (`WfTrack`) is read back by it as exactly the event lists
  that were written.
-/
namespace Mingus.Props.C16
open Mingus Mingus.Midi

def WfEv : Ev → Prop
  | .chan2 k c a b => 8 ≤ k ∧ k ≤ 14 ∧ k ≠ 12 ∧ k ≠ 13 ∧ c < 16 ∧ a < 128 ∧ b < 128
  | .chan1 k c a => (k = 12 ∨ k = 13) ∧ c < 16 ∧ a < 128
  | .metaE t _ => t < 128

/-- one event, no running status -/
def parseEv : Bytes → Option (Ev × Bytes)
  | [] => none
  | st :: rest =>
    if st = 255 then
      match rest with
      | [] => none
      | t :: rest =>
        if t < 128 then
          match stdDec 0 rest with
          | none => none
          | some (len, r) => if len ≤ r.length then some (.metaE t (r.take len), r.drop len) else none
        else none
    else if 128 ≤ st ∧ st < 240 then
      if st / 16 = 12 ∨ st / 16 = 13 then
        match rest with
        | a :: r => if a < 128 then some (.chan1 (st / 16) (st % 16) a, r) else none
        | _ => none
      else
        match rest with
        | a :: b :: r => if a < 128 ∧ b < 128 then some (.chan2 (st / 16) (st % 16) a b, r) else none
        | _ => none
    else none

def parseEvents : Nat → Bytes → Option (List TEv)
  | _, [] => some []
  | 0, _ :: _ => none
  | f + 1, b :: bs =>
    match stdDec 0 (b :: bs) with
    | none => none
    | some (d, r1) =>
      match parseEv r1 with
      | none => none
      | some (e, r2) =>
        match parseEvents f r2 with
        | none => none
        | some l => some (⟨d, e⟩ :: l)

theorem status_split {c : Nat} (k : Nat) (h : c < 16) : (c + 16 * k) / 16 = k ∧ (c + 16 * k) % 16 = c := by omega

theorem parseEv_bytes (e : Ev) (h : WfEv e) (tail : Bytes) : parseEv (e.bytes ++ tail) = some (e, tail) := by
  cases e with
  | chan2 k c a b =>
    obtain ⟨h1, h2, h3, h4, h5, h6, h7⟩ := h
    have hr : c + 16 * k ≠ 255 ∧ 128 ≤ c + 16 * k ∧ c + 16 * k < 240 := by omega
    simp [Ev.bytes, parseEv, hr, status_split k h5, h3, h4, h6, h7]
  | chan1 k c a =>
    obtain ⟨h1, h2, h3⟩ := h
    have hr : c + 16 * k ≠ 255 ∧ 128 ≤ c + 16 * k ∧ c + 16 * k < 240 := by omega
    simp [Ev.bytes, parseEv, hr, status_split k h2, h1, h3]
  | metaE t d =>
    have ht : t < 128 := h
    simp only [Ev.bytes, List.cons_append, List.nil_append, List.append_assoc, parseEv, if_true, ht]
    rw [dec_toVarbyte]
    simp

theorem serialise_cons (e : TEv) (es : List TEv) :
    serialise (e :: es) = toVarbyte e.delta ++ (e.ev.bytes ++ serialise es) := by
  simp [serialise, TEv.bytes]

theorem serialise_append (a b : List TEv) : serialise (a ++ b) = serialise a ++ serialise b := by
  simp [serialise]

theorem parseEvents_step {f : Nat} {bs r1 r2 : Bytes} {d : Nat} {e : Ev} {l : List TEv} (h1 : stdDec 0 bs = some (d, r1))
    (h2 : parseEv r1 = some (e, r2)) (h3 : parseEvents f r2 = some l) : parseEvents (f + 1) bs = some (⟨d, e⟩ :: l) := by
  cases bs with
  | nil => simp [stdDec] at h1
  | cons b bs => simp only [parseEvents, h1, h2, h3]

theorem parse_serialise (evs : List TEv) (h : ∀ e ∈ evs, WfEv e.ev) :
    ∀ f, evs.length ≤ f → parseEvents f (serialise evs) = some evs := by
  induction evs with
  | nil => intro f _; cases f <;> rfl
  | cons e es ih =>
    intro f hf
    cases f with
    | zero => simp at hf
    | succ f =>
      rw [serialise_cons]
      obtain ⟨he, ht⟩ := List.forall_mem_cons.1 h
      exact parseEvents_step (dec_toVarbyte _ _) (parseEv_bytes e.ev he _) (ih ht f (by simpa using hf))

theorem tev_bytes_ne_nil (e : TEv) : e.bytes ≠ [] := by simp [TEv.bytes, toVarbyte_ne_nil]

theorem serialise_length_ge (evs : List TEv) : evs.length ≤ (serialise evs).length :=
  length_le_flatMap _ evs fun e _ => tev_bytes_ne_nil e

def beVal (l : Bytes) : Nat := l.foldl (fun acc b => acc * 256 + b) 0

theorem be_succ (k n : Nat) : be (k + 1) n = be k (n / 256) ++ [n % 256] := by
  simp [be, List.range_succ_eq_map, Function.comp_def, Nat.div_div_eq_div_mul, Nat.pow_succ, Nat.mul_comm]

theorem beVal_be (k : Nat) : ∀ n, beVal (be k n) = n % 256 ^ k := by
  induction k with
  | zero => intro n; simp [be, beVal, Nat.mod_one]
  | succ k ih =>
    intro n
    have := ih (n / 256)
    rw [beVal] at this
    rw [be_succ, beVal, List.foldl_append, this, Nat.pow_succ', Nat.mod_mul]
    simp [Nat.mul_comm, Nat.add_comm]

theorem beVal_be4 (n : Nat) (h : n < 2 ^ 32) : beVal (be 4 n) = n := (beVal_be 4 n).trans (Nat.mod_eq_of_lt h)
theorem be_length (k n : Nat) : (be k n).length = k := by simp [be]

def eot : TEv := ⟨0, .metaE 47 []⟩

/-- `MTrk`, length, that many bytes of events, the last of which is end-of-track (and no other) -/
def parseChunk : Bytes → Option (List TEv × Bytes)
  | 77 :: 84 :: 114 :: 107 :: a :: b :: c :: d :: rest =>
    let len := beVal [a, b, c, d]
    if len ≤ rest.length then
      match parseEvents len (rest.take len) with
      | none => none
      | some evs =>
        match evs.getLast? with
        | some ⟨_, .metaE 47 []⟩ =>
          if evs.dropLast.all (fun e => match e.ev with | .metaE 47 _ => false | _ => true) then some (evs.dropLast, rest.drop len) else none
        | _ => none
    else none
  | _ => none

def parseChunks : Nat → Bytes → Option (List (List TEv))
  | _, [] => some []
  | 0, _ :: _ => none
  | f + 1, b :: bs =>
    match parseChunk (b :: bs) with
    | none => none
    | some (t, rest) =>
      match parseChunks f rest with
      | none => none
      | some ts => some (t :: ts)

structure Smf where
  format : Nat
  ntracks : Nat
  division : Nat
  tracks : List (List TEv)
  deriving DecidableEq, Repr

/-- `MThd` of length 6, then track chunks to the end of the file; the declared count must match -/
def parseSmf : Bytes → Option Smf
  | 77 :: 84 :: 104 :: 100 :: 0 :: 0 :: 0 :: 6 :: f1 :: f2 :: n1 :: n2 :: d1 :: d2 :: rest =>
    match parseChunks rest.length rest with
    | none => none
    | some ts => if beVal [n1, n2] = ts.length then some ⟨beVal [f1, f2], beVal [n1, n2], beVal [d1, d2], ts⟩ else none
  | _ => none

/-- `+ 4`: the end-of-track event that `MT.chunk` appends -/
def WfTrack (t : MT) : Prop :=
  (∀ e ∈ t.evs, WfEv e.ev ∧ ∀ d, e.ev ≠ .metaE 47 d) ∧ (serialise t.evs).length + 4 < 2 ^ 32

theorem be4_eq (n : Nat) : be 4 n = [n / 256 ^ 3 % 256, n / 256 ^ 2 % 256, n / 256 ^ 1 % 256, n / 256 ^ 0 % 256] := by
  simp [be, List.range_succ_eq_map]

theorem serialise_eot (evs : List TEv) : serialise (evs ++ [eot]) = serialise evs ++ [0, 255, 47, 0] := by
  have h : serialise [eot] = [0, 255, 47, 0] := by decide +kernel
  rw [serialise_append, h]

theorem chunk_eq (t : MT) : t.chunk =
    [77, 84, 114, 107] ++ be 4 (serialise (t.evs ++ [eot])).length ++ serialise (t.evs ++ [eot]) := by
  simp [MT.chunk, serialise_eot]

theorem wf_eot {t : MT} (h : WfTrack t) :
    (∀ e ∈ t.evs ++ [eot], WfEv e.ev) ∧ (serialise (t.evs ++ [eot])).length < 2 ^ 32 := by
  refine ⟨fun e he => ?_, by simpa [serialise_eot] using h.2⟩
  rcases List.mem_append.1 he with h1 | h1
  · exact (h.1 e h1).1
  · rw [List.mem_singleton.1 h1]; simp [eot, WfEv]

theorem chunk_parse (t : MT) (h : WfTrack t) (tail : Bytes) : parseChunk (t.chunk ++ tail) = some (t.evs, tail) := by
  have hall : (t.evs.all fun e => match e.ev with | .metaE 47 _ => false | _ => true) = true := by
    rw [List.all_eq_true]
    intro e he
    have := (h.1 e he).2
    split
    · rename_i d hev; exact absurd hev (this d)
    · rfl
  -- the length field spelled as four bytes, so that `parseChunk`'s pattern matches; then folded back
  rw [chunk_eq, be4_eq]
  simp only [List.cons_append, List.nil_append, parseChunk]
  rw [← be4_eq, beVal_be4 _ (wf_eot h).2, if_pos (by simp), List.take_left' rfl, List.drop_left' rfl,
    parse_serialise _ (wf_eot h).1 _ (serialise_length_ge _)]
  simp [eot, hall]

theorem parseChunks_step {f : Nat} {bs rest : Bytes} {t : List TEv} {ts : List (List TEv)}
    (h1 : parseChunk bs = some (t, rest)) (h2 : parseChunks f rest = some ts) :
    parseChunks (f + 1) bs = some (t :: ts) := by
  cases bs with
  | nil => simp [parseChunk] at h1
  | cons b bs => simp only [parseChunks, h1, h2]

theorem chunks_parse (ts : List MT) (h : ∀ t ∈ ts, WfTrack t) :
    ∀ f, ts.length ≤ f → parseChunks f (ts.flatMap MT.chunk) = some (ts.map (·.evs)) := by
  induction ts with
  | nil => intro f _; cases f <;> rfl
  | cons t ts ih =>
    intro f hf
    cases f with
    | zero => simp at hf
    | succ f =>
      obtain ⟨ht, hts⟩ := List.forall_mem_cons.1 h
      exact parseChunks_step (chunk_parse t ht _) (ih hts f (by simpa using hf))

theorem fileBytes_eq (ts : List MT) : fileBytes ts =
    77 :: 84 :: 104 :: 100 :: 0 :: 0 :: 0 :: 6 :: 0 :: 1 :: (ts.length / 256 % 256) :: (ts.length % 256) :: 0 :: 72 ::  -- format 1, 72 ticks
      ts.flatMap MT.chunk := by
  simp [fileBytes, be, List.range_succ_eq_map]

/-- **Framing.** Every file the model writes from fewer than 2^16 well-formed tracks (`WfTrack`) parses under the
    independent reader: header of length 6, format 1, 72 ticks per quarter, the declared number of tracks equal to the
    number of chunks, every chunk's length field matching its content, ending in the one end-of-track event — and the
    events read are exactly those written. -/
theorem file_parses (ts : List MT) (h : ∀ t ∈ ts, WfTrack t) (hn : ts.length < 2 ^ 16) :
    parseSmf (fileBytes ts) = some ⟨1, ts.length, 72, ts.map (·.evs)⟩ := by
  have : ts.length / 256 % 256 * 256 + ts.length % 256 = ts.length := by omega
  rw [fileBytes_eq]
  simp only [parseSmf]
  rw [chunks_parse ts h _ (length_le_flatMap _ ts fun t _ => by simp [MT.chunk])]
  simp [beVal, this]

end Mingus.Props.C16
