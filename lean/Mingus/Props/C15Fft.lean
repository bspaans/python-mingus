import Mingus.Model.Alias
import Mingus.Lemmas.Except
import Mathlib.Tactic.Linarith
/-
  C15, table lookups with position memory: `fft._find_log_index` returns, for ANY strictly increasing positive table of 129
  entries and after ANY history of earlier lookups, the index the stateless lookup returns.  The concrete frequency table
  never enters the proof.
-/
namespace Mingus.Props.C15Fft
open Mingus Mingus.Alias

variable (table : List Rat)

def T (i : Nat) : Rat := table.getD i 0

structure Table : Prop where
  len : table.length = 129
  mono : ∀ i j, i < j → j ≤ 128 → T table i < T table j
  pos : 0 < T table 0

theorem T_pos (ht : Table table) (i : Nat) (hi : i ≤ 128) : 0 < T table i := by
  cases i with
  | zero => exact ht.pos
  | succ k => exact lt_trans ht.pos (ht.mono 0 (k + 1) (by omega) hi)

theorem T_le (ht : Table table) (i j : Nat) (hij : i ≤ j) (hj : j ≤ 128) : T table i ≤ T table j := by
  rcases hij.lt_or_eq with h | rfl
  · exact (ht.mono i j h hj).le
  · rfl

theorem T_eq_getElem (i : Nat) (hi : i < table.length) : T table i = table[i] := by
  simp [T, hi]

def IsAnswer (f : Rat) (n : Nat) : Prop := n ≤ 127 ∧ f ≤ T table n ∧ ∀ m, m < n → T table m < f

/-- `n` is the first index whose entry is not below `f`, or 128 when the entries 0..127 all are: the answer of the
    stateless lookup, in range or not -/
def First (f : Rat) (n : Nat) : Prop := n ≤ 128 ∧ (∀ m, m < n → T table m < f) ∧ (n < 128 → f ≤ T table n)

theorem IsAnswer.first {f : Rat} {n : Nat} (h : IsAnswer table f n) : First table f n :=
  ⟨by have := h.1; omega, h.2.2, fun _ => h.2.1⟩

theorem First.unique {f : Rat} {n n' : Nat} (h : First table f n) (h' : First table f n') : n = n' := by
  rcases Nat.lt_trichotomy n n' with hlt | heq | hgt
  · exact absurd (h'.2.1 n hlt) (not_lt.2 (h.2.2 (by have := h'.1; omega)))
  · exact heq
  · exact absurd (h.2.1 n' hgt) (not_lt.2 (h'.2.2 (by have := h.1; omega)))

theorem answer_unique (ht : Table table) (f : Rat) (n n' : Nat) (h : IsAnswer table f n) (h' : IsAnswer table f n') : n = n' :=
  h.first.unique table h'.first

theorem lookupPure_first (ht : Table table) (f : Rat) (hf : 0 < f) : First table f (lookupPure table f) := by
  rw [lookupPure, if_neg (not_le.2 hf)]
  cases hfi : table.findIdx? (fun c => decide (f ≤ c)) with
  | none =>
    show First table f 128
    refine ⟨le_refl _, fun m hm => ?_, fun h => absurd h (lt_irrefl _)⟩
    have hm' : m < table.length := by rw [ht.len]; omega
    have := List.findIdx?_eq_none_iff.1 hfi _ (List.getElem_mem hm')
    rw [← T_eq_getElem table m hm', decide_eq_false_iff_not] at this
    exact not_le.1 this
  | some k =>
    obtain ⟨hk, hle, hbelow⟩ := List.findIdx?_eq_some_iff_getElem.1 hfi
    have hbelow' : ∀ m, m < k → T table m < f := fun m hm => by
      have := hbelow m hm
      rw [← T_eq_getElem table m (by omega), decide_eq_true_eq] at this
      exact not_le.1 this
    rw [← T_eq_getElem table k hk, decide_eq_true_eq] at hle
    rw [ht.len] at hk
    show First table f (if k ≤ 127 then k else 128)
    split
    · exact ⟨by omega, hbelow', fun _ => hle⟩
    · rw [show 128 = k by omega]; exact ⟨by omega, hbelow', fun h => absurd h (by omega)⟩

theorem First.lt_iff (ht : Table table) {f : Rat} {a : Nat} (h : First table f a) {n : Nat} (hn : n ≤ 127) :
    T table n < f ↔ n < a := by
  refine ⟨fun hlt => ?_, h.2.1 n⟩
  by_contra hc
  have := T_le table ht a n (by omega) (by omega)
  linarith [h.2.2 (by omega)]

/-- `b = 0 ∨ b < a`: the search never looks at `b` itself again -/
theorem bsearch_correct (ht : Table table) (f : Rat) (hf : 0 < f) (a : Nat) (ha : First table f a) :
    ∀ (fuel b e : Nat), e - b ≤ fuel → b ≤ a → (b = 0 ∨ b < a) → a < e → e ≤ 128 → bsearch table f fuel b e = (a, true) := by
  intro fuel
  induction fuel with
  | zero => intro b e h; omega
  | succ fuel ih =>
    intro b e hfuel hba hb hae he
    rw [bsearch, if_neg (by omega)]
    generalize hn : (b + e) / 2 = n
    -- the two tests compare n with a
    have hprev : (if n ≠ 0 then table.getD (n - 1) 0 else 0) < f ↔ n ≤ a := by
      split
      · exact (ha.lt_iff table ht (by omega)).trans (by omega)
      · exact iff_of_true hf (by omega)
    have hle : f ≤ table.getD n 0 ↔ a ≤ n := by
      rw [← not_lt, show table.getD n 0 = T table n from rfl, ha.lt_iff table ht (by omega)]; omega
    simp only [hprev, hle]
    by_cases hna : n = a
    · rw [if_pos ⟨hna.le, hna.ge⟩, hna]
    · rw [if_neg (by omega)]
      by_cases hc : f < table.getD n 0
      · rw [if_pos hc]; exact ih b n (by omega) (by omega) (by omega) (by have := hle.1 hc.le; omega) (by omega)
      · have : n < a := by
          by_contra h
          exact hc ((ha.2.2 (by omega)).trans_lt (ht.mono a n (by omega) (by omega)))
        rw [if_neg hc]; exact ih n e (by omega) (by omega) (by omega) hae he

def MemOK (mem : Option (Nat × Rat)) : Prop := ∀ n v, mem = some (n, v) → 0 < v ∧ First table v n

theorem first_correct (ht : Table table) {f : Rat} (hf : 0 < f) {n : Nat} (h : First table f n) :
    n = lookupPure table f ∧ MemOK table (some (n, f)) :=
  ⟨h.unique table (lookupPure_first table ht f hf), by rintro _ _ ⟨⟩; exact ⟨hf, h⟩⟩

theorem lookupMem_correct (ht : Table table) (mem : Option (Nat × Rat)) (hm : MemOK table mem) (f : Rat) :
    (lookupMem table mem f).1 = lookupPure table f ∧ MemOK table (lookupMem table mem f).2 := by
  have viaSearch : ∀ b, (b = 0 ∨ T table b < f) → b ≤ 128 →
      (let r := (if f > table.getD 127 0 ∨ f ≤ 0 then (128, mem)
          else let r := bsearch table f 200 b 128; (r.1, some (r.1, f)) : Nat × Option (Nat × Rat));
       r.1 = lookupPure table f ∧ MemOK table r.2) := by
    intro b hb hb128
    by_cases hout : f > table.getD 127 0 ∨ f ≤ 0
    · simp only [hout, if_true]
      refine ⟨?_, hm⟩
      by_cases h0 : f ≤ 0
      · simp [lookupPure, h0]
      · exact (first_correct table ht (not_le.1 h0) ⟨le_refl _, fun m hm' =>
          (T_le table ht m 127 (by omega) (by omega)).trans_lt (hout.resolve_right h0), fun h => absurd h (lt_irrefl _)⟩).1
    · simp only [hout, if_false]
      obtain ⟨(h127 : ¬ T table 127 < f), hf0⟩ := not_or.1 hout
      have hf0' : 0 < f := not_le.1 hf0
      have ha := lookupPure_first table ht f hf0'
      have ha127 : lookupPure table f ≤ 127 := by
        by_contra hc
        exact h127 (ha.2.1 127 (by omega))
      have hb127 : b ≤ 127 := by
        rcases hb with h | h
        · omega
        · by_contra hc
          have := T_le table ht 127 b (by omega) hb128
          linarith
      have hba : b = 0 ∨ b < lookupPure table f := hb.imp_right (ha.lt_iff table ht hb127).1
      rw [bsearch_correct table ht f hf0' _ ha 200 b 128 (by omega) (by omega) hba (by omega) le_rfl]
      exact ⟨rfl, (first_correct table ht hf0' ha).2⟩
  unfold lookupMem
  cases mem with
  | none => exact viaSearch 0 (Or.inl rfl) (by omega)
  | some p =>
    obtain ⟨lastn, lastval⟩ := p
    obtain ⟨hv0, hl128, hbelow, -⟩ := hm lastn lastval rfl
    simp only
    by_cases hge : f ≥ lastval
    · have hf0 : 0 < f := by linarith
      rw [if_pos hge]
      by_cases h1 : f ≤ table.getD lastn 0
      · rw [if_pos h1]
        exact first_correct table ht hf0 ⟨hl128, fun m hm' => (hbelow m hm').trans_le hge, fun _ => h1⟩
      · have hgt : T table lastn < f := not_le.1 h1
        rw [if_neg h1]
        by_cases h2 : lastn + 1 < table.length ∧ f ≤ table.getD (lastn + 1) 0
        · rw [if_pos h2]
          exact first_correct table ht hf0 ⟨by have := h2.1; rw [ht.len] at this; omega,
            fun m hm' => (T_le table ht m lastn (by omega) hl128).trans_lt hgt, fun _ => h2.2⟩
        · rw [if_neg h2]
          exact viaSearch lastn (Or.inr hgt) hl128
    · rw [if_neg hge]
      exact viaSearch 0 (Or.inl rfl) (by omega)

def runLookups (fs : List Rat) : List Nat × Option (Nat × Rat) :=
  fs.foldl (fun (acc : List Nat × Option (Nat × Rat)) f => let r := lookupMem table acc.2 f; (acc.1 ++ [r.1], r.2)) ([], none)

theorem lookup_stateless (ht : Table table) (fs : List Rat) : (runLookups table fs).1 = fs.map (lookupPure table) :=
  (foldl_inv _ (fun s done => MemOK table s.2 ∧ s.1 = done.map (lookupPure table)) fs ([], none) ⟨nofun, rfl⟩
    fun s f _ done ⟨hm, hs⟩ => by
      obtain ⟨h1, h2⟩ := lookupMem_correct table ht s.2 hm f
      exact ⟨h2, by simp [hs, h1]⟩).2

/-- The guard `lastn + 1 < table.length` of `lookupMem` is the repaired code's: without it the shortcut reads entry 129 and
    `MemOK` cannot be kept; the implementation raised IndexError on the history 24000, 26000, 27000 Hz
    (known_findings.json, `fixed:`). -/
example : True := trivial

end Mingus.Props.C15Fft
