import Mingus.Props.C19Bar
import Mingus.Lemmas.ListM
/-
  C19 — whole LilyPond tracks read back.

  `readBarFull` reads a bar as `from_Bar` writes it with any of the four flag combinations: `{ `, an optional `\time c/u `,
  an optional `\key k \mode `, the entries, `}`.  `readTrackLy` reads `from_Track`'s text: `{ `, the bars each followed by a
  blank (a bar ends at its matching brace - tuplet blocks nest), `}`.
  `lyBar_reads_full`: any bar in one of the 30 keys, any non-negative meter numbers, any number of entries of the
  vocabulary, reads back as (the time iff shown, the key's tonic and mode iff shown, the entries).
  `lyTrack_reads`: a track of any number of such bars reads back bar by bar, key and time shown exactly where they change
  (C major and 4/4 before the first bar).
  A bar's text and a track's text are brace groups (`Closed`); a track, like the tracks of a composition, is a list of groups
  each followed by a blank (`spaced`), which `splitBars_spaced` takes apart.  `lyBar_spec`, `lyTrack_spec` say of a text that it
  is written, is a group, and reads back.
-/
namespace Mingus.Props.C19
open Mingus Mingus.Export Mingus.Containers

theorem lvl_shift (a : Str) : ∀ (d d' k : Nat), lvl a d = some d' → lvl a (d + k) = some (d' + k) := by
  induction a with
  | nil => intro d d' k h; simp only [lvl, Option.some.injEq] at h ⊢; omega
  | cons c cs ih =>
    intro d d' k h
    rw [lvl] at h ⊢
    split
    · rw [if_pos ‹_›] at h; rw [Nat.add_right_comm]; exact ih _ _ _ h
    · rw [if_neg ‹_›] at h
      split
      · rw [if_pos ‹_›] at h
        split at h
        · cases h
        · rw [if_neg (by omega), show d + k - 1 = d - 1 + k by omega]; exact ih _ _ _ h
      · rw [if_neg ‹_›] at h; exact ih _ _ _ h

/-- the text of one `{ … }` group starting at depth `d` (0 before its opening brace), and what follows it -/
def takeGroup : Str → Nat → Option (Str × Str)
  | [], _ => none
  | c :: cs, d =>
    if c = '{' then (takeGroup cs (d + 1)).map fun r => (c :: r.1, r.2)
    else if c = '}' then (if d ≤ 1 then some ([c], cs) else (takeGroup cs (d - 1)).map fun r => (c :: r.1, r.2))
    else (takeGroup cs d).map fun r => (c :: r.1, r.2)

theorem takeGroup_close (mid rest : Str) : ∀ d, 1 ≤ d → lvl mid d = some 1 →
    takeGroup (mid ++ '}' :: rest) d = some (mid ++ ['}'], rest) := by
  induction mid with
  | nil =>
    intro d hd h
    cases h
    simp [takeGroup]
  | cons c cs ih =>
    intro d hd h
    rw [lvl] at h
    rw [List.cons_append, takeGroup]
    split
    · rw [if_pos ‹_›] at h; rw [ih _ (by omega) h]; rfl
    · rw [if_neg ‹_›] at h
      split
      · rw [if_pos ‹_›] at h
        split at h
        · cases h
        · rw [if_neg ‹_›, ih _ (by omega) h]; rfl
      · rw [if_neg ‹_›] at h; rw [ih _ hd h]; rfl

def Closed (p : Str) : Prop := ∃ mid, p = '{' :: (mid ++ ['}']) ∧ lvl mid 1 = some 1

theorem takeGroup_bar {p : Str} (h : Closed p) (rest : Str) : takeGroup (p ++ rest) 0 = some (p, rest) := by
  obtain ⟨mid, rfl, h⟩ := h
  simp [takeGroup, takeGroup_close mid rest 1 (by omega) h]

theorem Closed.lvl_skip {p : Str} (h : Closed p) (rest : Str) (d : Nat) (hd : 1 ≤ d) : lvl (p ++ rest) d = lvl rest d := by
  obtain ⟨mid, rfl, h⟩ := h
  rw [List.cons_append, lvl, if_pos rfl, List.append_assoc, lvl_append, Nat.add_comm, lvl_shift mid 1 1 d h]
  show lvl ('}' :: rest) (1 + d) = _
  rw [lvl, if_neg (by decide), if_pos rfl, if_neg (by omega), Nat.add_sub_cancel_left]

abbrev spaced (parts : List Str) : Str := parts.flatMap (· ++ [' '])

theorem closed_spaced (parts : List Str) (h : ∀ p ∈ parts, Closed p) : Closed ('{' :: ' ' :: (spaced parts ++ ['}'])) := by
  refine ⟨' ' :: spaced parts, rfl, ?_⟩
  rw [lvl_blank]
  induction parts with
  | nil => rfl
  | cons p ps ih =>
    obtain ⟨hp, hps⟩ := List.forall_mem_cons.1 h
    rw [spaced, List.flatMap_cons, List.append_assoc, hp.lvl_skip _ 1 (by omega), List.singleton_append, lvl_blank]
    exact ih hps

theorem body_shape (es : List LEntry) : ∀ (xs : List REntry), List.Forall₂ Reads es xs →
    ∀ (latest : Nat × Nat) (changed : Bool),
    ∃ s, lyEntries es latest changed = .ok s ∧ (nextTok s false).1 ≠ lit "\\time" ∧ (nextTok s false).1 ≠ lit "\\key" ∧
      lvl s (if changed then 2 else 1) = some 1 := fun xs h latest changed =>
  let ⟨s, h1, _, _, h4⟩ := lyEntries_spec es xs h latest changed
  ⟨s, h1, h4⟩

/-- the tonic of a key as `\key` writes it: `from_Note` without octave marks -/
def keyTok (k : Str) : Str := lowerChar (upperChar (k.headD 'C')) :: lyAcc (k.drop 1)

theorem key_tok_table : ∀ k ∈ Keys.allKeys,
    k ≠ [] ∧ readPitch (keyTok k) = some (lowerChar (k.headD 'C'), k.drop 1, 3) ∧ Free " <>{}".toList (keyTok k) := by
  decide +kernel

theorem mode_plain (k : Str) : Free " <>{}".toList ('\\' :: modeOf k) := by
  unfold modeOf; split <;> decide

/-- the time and key prefixes in front of `X`, word by word as the reader takes them; `lyBar_shape` ties them to
    `from_Bar`'s concatenation -/
def timePart (b : LBar) (st : Bool) (X : Str) : Str :=
  if st then lit "\\time" ++ ' ' :: (ratioText b.count.toNat b.unit.toNat ++ ' ' :: X) else X
def keyPart (b : LBar) (sk : Bool) (X : Str) : Str :=
  if sk then lit "\\key" ++ ' ' :: (keyTok b.key ++ ' ' :: (('\\' :: modeOf b.key) ++ ' ' :: X)) else X

theorem lyBar_shape (b : LBar) (sk st : Bool) (hk : b.key ≠ []) (hc : 0 ≤ b.count) (hu : 0 ≤ b.unit) (body : Str)
    (hb : lyEntries b.entries (1, 1) false = .ok body) :
    lyBar b sk st = .ok ('{' :: ' ' :: (timePart b st (keyPart b sk body) ++ ['}'])) := by
  obtain ⟨l, t, hkey⟩ := List.exists_cons_of_ne_nil hk
  unfold lyBar
  cases sk <;> cases st <;>
    simp [hkey, hb, lyNote_eq, timePart, keyPart, keyTok, Note.showInt_nat, hc, hu, ratioText, lit]

structure RBar where
  time : Option (Nat × Nat)
  key : Option ((Char × Str × Int) × Str)
  entries : List REntry

def readKeyBody (T : Option (Nat × Nat)) (inner : Str) : Option RBar :=
  let t3 := nextTok inner false
  let r2 : Option (Option ((Char × Str × Int) × Str) × Str) :=
    if t3.1 = lit "\\key" then
      (readPitch (nextTok t3.2 false).1).map fun p =>
        (some (p, (nextTok (nextTok t3.2 false).2 false).1), (nextTok (nextTok t3.2 false).2 false).2)
    else some (none, inner)
  r2.bind fun p2 => (readBody (p2.2.length + 1) p2.2 (1, 1)).map fun es => ⟨T, p2.1, es⟩

def readBarFull (s : Str) : Option RBar :=
  match s with
  | '{' :: ' ' :: rest =>
    if rest.getLast? = some '}' then
      let inner := rest.dropLast
      let t1 := nextTok inner false
      if t1.1 = lit "\\time" then
        (parseRatio (nextTok t1.2 false).1).bind fun r => readKeyBody (some r) (nextTok t1.2 false).2
      else readKeyBody none inner
    else none
  | _ => none

abbrev BarView := Option (Nat × Nat) × Option ((Char × Str × Int) × Str) × List REntry
def viewOf (rb : RBar) : BarView := (rb.time, rb.key, rb.entries)

theorem readKeyBody_keyPart (b : LBar) (sk : Bool) (hk : b.key ∈ Keys.allKeys) (body : Str) (xs : List REntry)
    (hb : readBody (body.length + 1) body (1, 1) = some xs) (hf : (nextTok body false).1 ≠ lit "\\key")
    (T : Option (Nat × Nat)) :
    (readKeyBody T (keyPart b sk body)).map viewOf =
      some (T, if sk then some ((lowerChar (b.key.headD 'C'), b.key.drop 1, 3), '\\' :: modeOf b.key) else none, xs) := by
  obtain ⟨-, k2, k3⟩ := key_tok_table b.key hk
  cases sk with
  | false => simp [readKeyBody, keyPart, hf, hb, viewOf]
  | true =>
    have hm : nextTok ('\\' :: (modeOf b.key ++ ' ' :: body)) false = _ := nextTok_word (mode_plain b.key) body
    simp [readKeyBody, keyPart, nextTok_word (by decide : Free " <>{}".toList (lit "\\key")), nextTok_word k3, k2, hm, hb,
      viewOf]

def BarOK (b : LBar) (xs : List REntry) : Prop :=
  b.key ∈ Keys.allKeys ∧ 0 ≤ b.count ∧ 0 ≤ b.unit ∧ List.Forall₂ Reads b.entries xs

theorem lyBar_spec (b : LBar) (sk st : Bool) (xs : List REntry) (h : BarOK b xs) :
    ∃ s, lyBar b sk st = .ok s ∧ Closed s ∧
      (readBarFull s).map viewOf =
        some (if st then some (b.count.toNat, b.unit.toNat) else none,
              if sk then some ((lowerChar (b.key.headD 'C'), b.key.drop 1, 3), '\\' :: modeOf b.key) else none, xs) := by
  obtain ⟨hk, hc, hu, hr⟩ := h
  obtain ⟨body, h1, h2, h3, f1, f2, h4⟩ := lyEntries_spec b.entries xs hr (1, 1) false
  obtain ⟨k1, -, k3⟩ := key_tok_table b.key hk
  have hkb := readKeyBody_keyPart b sk hk body xs (h3 _ (by omega)) f2
  refine ⟨_, lyBar_shape b sk st k1 hc hu body h1, ⟨' ' :: timePart b st (keyPart b sk body), rfl, ?_⟩, ?_⟩
  · have ht (X : Str) : lvl (timePart b st X) 1 = lvl X 1 := by
      cases st with
      | false => rfl
      | true => exact (lvl_word (by decide) _ _).trans (lvl_word (ratio_plain _ _) _ _)
    have hk : lvl (keyPart b sk body) 1 = lvl body 1 := by
      cases sk with
      | false => rfl
      | true => exact ((lvl_word (by decide) _ _).trans (lvl_word k3 _ _)).trans (lvl_word (mode_plain b.key) _ _)
    rw [lvl_blank, ht, hk]; exact h4
  · simp only [readBarFull, List.getLast?_append, List.getLast?_singleton, Option.some_or, if_true, List.dropLast_concat]
    cases st with
    | true =>
      simp only [timePart, if_true, nextTok_word (by decide : Free " <>{}".toList (lit "\\time")),
        nextTok_word (ratio_plain _ _), parseRatio_show, Option.bind, hkb]
    | false =>
      have hnt : (nextTok (keyPart b sk body) false).1 ≠ lit "\\time" := by
        cases sk with
        | false => exact f1
        | true =>
          rw [keyPart, if_pos rfl, nextTok_word (by decide)]
          exact (by decide : lit "\\key" ≠ lit "\\time")
      simp only [timePart, Bool.false_eq_true, if_false, hnt, hkb]

theorem lyBar_reads_full (b : LBar) (sk st : Bool) (hk : b.key ∈ Keys.allKeys) (hc : 0 ≤ b.count) (hu : 0 ≤ b.unit)
    (xs : List REntry) (h : List.Forall₂ Reads b.entries xs) :
    ∃ s, lyBar b sk st = .ok s ∧
      (readBarFull s).map (fun r => (r.time, r.key, r.entries)) =
        some (if st then some (b.count.toNat, b.unit.toNat) else none,
              if sk then some ((lowerChar (b.key.headD 'C'), b.key.drop 1, 3), '\\' :: modeOf b.key) else none, xs) :=
  let ⟨s, h1, _, h3⟩ := lyBar_spec b sk st xs ⟨hk, hc, hu, h⟩
  ⟨s, h1, h3⟩

theorem bar_group (b : LBar) (sk st : Bool) (hk : b.key ∈ Keys.allKeys) (hc : 0 ≤ b.count) (hu : 0 ≤ b.unit)
    (xs : List REntry) (h : List.Forall₂ Reads b.entries xs) :
    ∃ mid, lyBar b sk st = .ok ('{' :: (mid ++ ['}'])) ∧ lvl mid 1 = some 1 :=
  let ⟨_, h1, ⟨mid, e, hm⟩, _⟩ := lyBar_spec b sk st xs ⟨hk, hc, hu, h⟩
  ⟨mid, e ▸ h1, hm⟩

def wantBar (b : LBar) (lastkey : Str) (lasttime : Int × Int) (xs : List REntry) : BarView :=
  (if (lasttime != (b.count, b.unit)) then some (b.count.toNat, b.unit.toNat) else none,
   if (lastkey != b.key) then some ((lowerChar (b.key.headD 'C'), b.key.drop 1, 3), '\\' :: modeOf b.key) else none, xs)

def wantAll : List LBar → List (List REntry) → Str → (Int × Int) → List BarView
  | b :: bs, xs :: xss, lk, lt => wantBar b lk lt xs :: wantAll bs xss b.key (b.count, b.unit)
  | _, _, _, _ => []

def splitBars : Nat → Str → Option (List Str)
  | 0, _ => none
  | fuel + 1, s =>
    if s = [] then some []
    else match takeGroup s 0 with
      | some (B, ' ' :: rest) => (splitBars fuel rest).map (B :: ·)
      | _ => none

def readTrackLy (s : Str) : Option (List RBar) :=
  match s with
  | '{' :: ' ' :: rest =>
    if rest.getLast? = some '}' then (splitBars (rest.length + 1) rest.dropLast).bind fun bs => bs.mapM readBarFull
    else none
  | _ => none

theorem splitBars_spaced (parts : List Str) (h : ∀ p ∈ parts, Closed p) : ∀ fuel, (spaced parts).length < fuel →
    splitBars fuel (spaced parts) = some parts := by
  induction parts with
  | nil => intro fuel hf; obtain ⟨f, rfl⟩ := Nat.exists_eq_add_of_lt hf; rfl
  | cons p ps ih =>
    intro fuel hf
    obtain ⟨f, rfl⟩ := Nat.exists_eq_add_of_lt hf
    obtain ⟨hp, hps⟩ := List.forall_mem_cons.1 h
    have hne : p ++ [' '] ++ spaced ps ≠ [] := by simp
    rw [spaced, List.flatMap_cons, splitBars, if_neg hne, List.append_assoc, takeGroup_bar hp, List.singleton_append]
    show (splitBars _ (spaced ps)).map _ = _
    rw [ih hps _ (by simp [spaced, List.flatMap_cons] at hf ⊢; omega)]; rfl

theorem lyTrackBars_spec (bars : List LBar) : ∀ (xss : List (List REntry)), List.Forall₂ BarOK bars xss →
    ∀ (lastkey : Str) (lasttime : Int × Int),
    ∃ ps rbs, lyTrackBars bars lastkey lasttime = .ok (spaced ps) ∧ (∀ p ∈ ps, Closed p) ∧
      ps.mapM readBarFull = some rbs ∧ rbs.map viewOf = wantAll bars xss lastkey lasttime := by
  induction bars with
  | nil => rintro _ ⟨⟩ lk lt; exact ⟨[], [], rfl, by simp, rfl, rfl⟩
  | cons b bs ih =>
    intro xss hx lk lt
    obtain ⟨xs, xss, hb, hrest, rfl⟩ := List.forall₂_cons_left_iff.1 hx
    obtain ⟨s, e1, e2, e3⟩ := lyBar_spec b (lk != b.key) (lt != (b.count, b.unit)) xs hb
    obtain ⟨ps, rbs, r1, r2, r3, r4⟩ := ih xss hrest b.key (b.count, b.unit)
    obtain ⟨rb, hrb, hv⟩ := Option.map_eq_some_iff.1 e3
    refine ⟨s :: ps, rb :: rbs, ?_, ?_, ?_, ?_⟩
    · rw [lyTrackBars]; exact ok_then e1 (ok_then r1 (by simp [lit, spaced]))
    · simpa using ⟨e2, r2⟩
    · simp [List.mapM_cons, hrb, r3]
    · simp [wantAll, wantBar, hv, r4]

theorem lyTrack_spec (bars : List LBar) (xss : List (List REntry)) (h : List.Forall₂ BarOK bars xss) :
    ∃ s, lyTrack bars = .ok s ∧ Closed s ∧ (readTrackLy s).map (·.map viewOf) = some (wantAll bars xss (lit "C") (4, 4)) := by
  obtain ⟨ps, rbs, r1, r2, r3, r4⟩ := lyTrackBars_spec bars xss h (lit "C") (4, 4)
  refine ⟨'{' :: ' ' :: (spaced ps ++ ['}']), ?_, closed_spaced ps r2, ?_⟩
  · exact ok_then r1 rfl
  · simp only [readTrackLy, List.getLast?_append, List.getLast?_singleton, Option.some_or, if_true, List.dropLast_concat,
      splitBars_spaced ps r2 ((spaced ps ++ ['}']).length + 1) (by rw [List.length_append]; omega), Option.bind, r3, Option.map_some, r4]

/-- **a whole track reads back** (`from_Track`): any number of bars, each in one of the 30 keys, with any non-negative
    meter numbers and any number of entries of the vocabulary; key and time are read exactly where they change
    (C major and 4/4 before the first bar) -/
theorem lyTrack_reads (bars : List LBar) (xss : List (List REntry)) (h : List.Forall₂ BarOK bars xss) :
    ∃ s, lyTrack bars = .ok s ∧ (readTrackLy s).map (·.map viewOf) = some (wantAll bars xss (lit "C") (4, 4)) :=
  let ⟨s, h1, _, h3⟩ := lyTrack_spec bars xss h
  ⟨s, h1, h3⟩

private def nt' (s : String) (o : Int) : Note := ⟨s.toList, o, 1, 64⟩
private def tb1 : LBar := ⟨lit "Eb", 3, 4, [⟨Value.dotsF 4 1, some [nt' "Eb" 4, nt' "G" 4]⟩, ⟨Value.tuplet 8 3 2, some [nt' "Bb" 3]⟩,
  ⟨Value.tuplet 8 3 2, none⟩, ⟨Value.tuplet 8 3 2, some [nt' "D" 5]⟩]⟩
private def tb2 : LBar := ⟨lit "c", 3, 4, [⟨2, some [nt' "C" 4]⟩, ⟨4, none⟩]⟩

example : (lyTrack [tb1, tb2]).toOption.map String.ofList =
    some "{ { \\time 3/4 \\key ees \\major <ees' g'>4. \\times 2/3 {bes8 r8 d''8 }} { \\key c \\minor c'2 r4 } }" := by
  decide +kernel

example : (((lyTrack [tb1, tb2]).toOption.bind readTrackLy).map (·.map viewOf) ==
    some [(some (3, 4), some (('e', lit "b", 3), lit "\\major"),
            [([('e', lit "b", 4), ('g', lit "", 4)], (4, 1), (1, 1)), ([('b', lit "b", 3)], (8, 0), (3, 2)), ([], (8, 0), (3, 2)),
             ([('d', lit "", 5)], (8, 0), (3, 2))]),
          (none, some (('c', lit "", 3), lit "\\minor"), [([('c', lit "", 4)], (2, 0), (1, 1)), ([], (4, 0), (1, 1))])]) = true := by
  decide +kernel

end Mingus.Props.C19
