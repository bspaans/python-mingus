import Mingus.Lemmas.Notes
/-
  C01 — note names and pitch classes agree for every spelling.
  The spelling theorems quantify over *all* accidental strings (any length, any order).
-/
namespace Mingus.Props.C01
open Mingus Mingus.Notes

/-- Spec: a name is a letter A–G followed by any string over {#, b}. -/
def IsName (s : Str) : Prop := ∃ l t, s = l :: t ∧ isLetter l = true ∧ ∀ c ∈ t, c = '#' ∨ c = 'b'

theorem all_isAcc_iff (t : Str) : t.all isAcc = true ↔ ∀ c ∈ t, c = '#' ∨ c = 'b' := by
  simp [isAcc_iff]

theorem isName_iff (s : Str) : IsName s ↔ valid s = true := by
  constructor
  · rintro ⟨l, t, rfl, hl, ht⟩
    exact valid_cons.2 ⟨hl, (all_isAcc_iff t).2 ht⟩
  · intro h
    obtain ⟨l, t, rfl⟩ := exists_cons_of_valid h
    exact ⟨l, t, rfl, (valid_cons.1 h).1, (all_isAcc_iff t).1 (valid_cons.1 h).2⟩

theorem isValid_iff (s : Str) (hs : s ≠ []) : isValidNote s = .ok true ↔ IsName s := by
  obtain ⟨l, t, rfl⟩ := List.exists_cons_of_ne_nil hs
  rw [isName_iff]; simp [isValidNote, valid]

/-- pitch class = (natural + sharps − flats) mod 12, for every accidental string -/
theorem noteToInt_spec (l : Char) (t : Str) (v : Int) (hl : natural? l = some v)
    (ht : ∀ c ∈ t, c = '#' ∨ c = 'b') :
    noteToInt (l :: t) = .ok ((v + (t.count '#' : Int) - (t.count 'b' : Int)) % 12) := by
  simp only [noteToInt, hl, (all_isAcc_iff t).2 ht, if_true, accVal_count]
  congr 2; omega

theorem noteToInt_range (s : Str) (k : Int) (h : noteToInt s = .ok k) : 0 ≤ k ∧ k < 12 := by
  cases s with
  | nil => cases h
  | cons l t =>
    rw [noteToInt_cons] at h
    split at h <;> cases h
    exact pc_range _

theorem noteToInt_reject (s : Str) (hs : s ≠ []) (h : ¬ IsName s) : noteToInt s = .error .noteFormat := by
  obtain ⟨l, t, rfl⟩ := List.exists_cons_of_ne_nil hs
  rw [noteToInt_cons, if_neg (mt (isName_iff _).2 h)]

theorem reduce_reject (s : Str) (hs : s ≠ []) (h : ¬ IsName s) :
    reduceAccidentals s = .error .noteFormat := by
  obtain ⟨l, t, rfl⟩ := List.exists_cons_of_ne_nil hs
  rw [reduce_cons, if_neg (mt (isName_iff _).2 h)]

/-- number → name → number is the identity; sharp style uses naturals and single sharps,
    flat style naturals and single flats (finite: 12 × 2, whole table) -/
theorem intToNote_roundtrip :
    ∀ i ∈ List.range 12,
      (intToNote i ['#'] = .ok (ns.getD i []) ∧ noteToInt (ns.getD i []) = .ok i ∧
        ((ns.getD i []).tail = [] ∨ (ns.getD i []).tail = ['#'])) ∧
      (intToNote i ['b'] = .ok (nf.getD i []) ∧ noteToInt (nf.getD i []) = .ok i ∧
        ((nf.getD i []).tail = [] ∨ (nf.getD i []).tail = ['b'])) := by
  decide +kernel

theorem intToNote_range (i : Int) (st : Str) (h : i < 0 ∨ i ≥ 12) : intToNote i st = .error .range := by
  simp [intToNote, h]
theorem intToNote_style (i : Int) (st : Str) (h : 0 ≤ i ∧ i < 12) (h1 : st ≠ ['#']) (h2 : st ≠ ['b']) :
    intToNote i st = .error .format := by
  have : ¬ (i < 0 ∨ i ≥ 12) := by omega
  simp [intToNote, this, h1, h2]

theorem enharmonic_iff (a b : Str) (x y : Int) (ha : noteToInt a = .ok x) (hb : noteToInt b = .ok y) :
    isEnharmonic a b = .ok (decide (x = y)) := by
  simp only [isEnharmonic, ha, hb, ok_bind, pure_ok]
  by_cases h : x = y <;> simp [h]

theorem noteToInt_eq_pc (s : Str) (h : valid s = true) : noteToInt s = .ok (pc s) := noteToInt_of_valid h

theorem augment_spec (l : Char) (t : Str) (h : valid (l :: t) = true) :
    valid (augment (l :: t)) = true ∧ (augment (l :: t)).head? = some l ∧
    pc (augment (l :: t)) = (pc (l :: t) + 1) % 12 := (Scales.good_of_valid l t h).augment

theorem diminish_spec (l : Char) (t : Str) (h : valid (l :: t) = true) :
    valid (diminish (l :: t)) = true ∧ (diminish (l :: t)).head? = some l ∧
    pc (diminish (l :: t)) = (pc (l :: t) - 1) % 12 := (Scales.good_of_valid l t h).diminish

/-- redundancy removal: the letter with exactly the net number of sharps or of flats -/
theorem removeRedundant_spec (l : Char) (t : Str) (h : valid (l :: t) = true) :
    removeRedundant (l :: t) = .ok (rep l (accVal t)) ∧ pc (rep l (accVal t)) = pc (l :: t) := by
  have hl := (valid_cons.1 h).1
  exact ⟨congrArg _ (rebuild_eq_rep l (letter_ne_b hl) (letter_ne_sharp hl) _), pc_rep l _⟩

/-- reduction: same pitch class, at most one accidental, a sharp (or none) for a net raise,
    a flat (or none) for a net lowering -/
theorem reduce_spec (l : Char) (t : Str) (h : valid (l :: t) = true) :
    ∃ r, reduceAccidentals (l :: t) = .ok r ∧ noteToInt r = .ok (pc (l :: t)) ∧
      (r.tail = [] ∨ (accVal t ≥ 0 ∧ r.tail = ['#']) ∨ (accVal t < 0 ∧ r.tail = ['b'])) := by
  have hp := pc_range (l :: t)
  obtain ⟨⟨a1, b1, c1⟩, ⟨a2, b2, c2⟩⟩ :=
    intToNote_roundtrip (pc (l :: t)).toNat (List.mem_range.2 (by omega))
  rw [Int.toNat_of_nonneg hp.1] at a1 b1 a2 b2
  rw [reduce_cons, if_pos h]
  split
  · exact ⟨_, a1, b1, c1.imp_right fun c => Or.inl ⟨‹_›, c⟩⟩
  · exact ⟨_, a2, b2, c2.imp_right fun c => Or.inr ⟨by omega, c⟩⟩

example : valid "C#b##bb#".toList = true ∧ noteToInt "C#b##bb#".toList = .ok 1 := by decide
example : reduceAccidentals "Bb####".toList = .ok "D".toList := by decide
example : removeRedundant "Eb##b".toList = .ok "E".toList := by decide
example : noteToInt "H".toList = .error .noteFormat ∧ noteToInt "C#x".toList = .error .noteFormat := by decide

end Mingus.Props.C01
