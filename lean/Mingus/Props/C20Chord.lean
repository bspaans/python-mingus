import Mingus.Props.C20
/-
  C20 — find_chord_fingering: every fingering returned has one entry per string, sounds only pitch classes of the chord on
  frets within 0..maxfret, covers every note name of the chord and respects the finger limit (`chord_sound`), and its
  fretted positions are less than max_distance apart (`chord_span`).  The candidates come out of `follow`, a walk through a
  lookup table (`makeTable`) whose cells only ever point at positions that `find_note_names` reported (`makeTable_good`).
-/
namespace Mingus.Props.C20
open Mingus Mingus.Tun Mingus.Containers

theorem keepSub_spec (next : Nat) (name : Option Str) (prev md : Int) (sub r : List (Nat × Option Str))
    (h : keepSub next name prev md sub = some r) : r = (next, name) :: sub := by
  unfold keepSub at h
  split at h
  · exact (Option.some.inj h).symm
  · split at h
    · split at h
      · exact (Option.some.inj h).symm
      · cases h
    · cases h

theorem viaCell_spec (cell : Cell) (next : Nat) (name : Option Str) (prev md : Int) (rec : Nat → Str → List (List (Nat × Option Str)))
    (r : List (Nat × Option Str)) (h : r ∈ viaCell cell next name prev md rec) :
    ∃ a b sub, sub ∈ rec a b ∧ r = (next, name) :: sub ∧ ∃ nm dests, cell = some (nm, dests) ∧ (a, b) ∈ dests := by
  unfold viaCell at h
  cases cell with
  | none => simp at h
  | some c =>
    obtain ⟨nm, dests⟩ := c
    simp only [List.mem_flatMap, List.mem_filterMap] at h
    obtain ⟨y, hy, sub, hsub, hk⟩ := h
    exact ⟨y.1, y.2, sub, hsub, keepSub_spec _ _ _ _ _ _ hk, nm, dests, rfl, hy⟩

/-- all that `follow` returns is built by three rules: the last string alone; this string, then a continuation from a
    destination of its table cell; this string, then a continuation that skips the next -/
theorem follow_ind (res : List (List Cell)) (nstrings maxfret : Nat) (md : Int)
    (P : Nat → Nat → Option Str → List (Nat × Option Str) → Prop)
    (last : ∀ next name, 0 < nstrings → P (nstrings - 1) next name [(next, name)])
    (via : ∀ string next name c dests a b tail, string + 1 < nstrings → (res.getD string []).getD next none = some (c, dests) →
      (a, b) ∈ dests → P (string + 1) a (some b) tail → P string next name ((next, name) :: tail))
    (skip : ∀ string next name tail, string + 1 < nstrings → P (string + 1) (maxfret + 1) none tail →
      P string next name ((next, name) :: tail)) :
    ∀ (fuel string next : Nat) (name : Option Str) (prev : Int), string + 1 ≤ nstrings → nstrings - 1 - string ≤ fuel →
      follow res nstrings maxfret md fuel string next name prev ≠ [] ∧
      ∀ sub ∈ follow res nstrings maxfret md fuel string next name prev, P string next name sub := by
  intro fuel
  induction fuel with
  | zero =>
    intro string next name prev hs hf
    cases (by omega : string = nstrings - 1)
    simpa [follow] using last next name (by omega)
  | succ f ih =>
    intro string next name prev hs hf
    simp only [follow]
    split
    · cases (by omega : string = nstrings - 1)
      simpa using last next name (by omega)
    · have hs' : string + 1 < nstrings := by omega
      have hskip := ih (string + 1) (maxfret + 1) none next hs' (by omega)
      have hne : viaCell ((res.getD string []).getD next none) next name prev md
          (fun a b => follow res nstrings maxfret md f (string + 1) a (some b) (-1)) ++
          (follow res nstrings maxfret md f (string + 1) (maxfret + 1) none next).map (fun s => (next, name) :: s) ≠ [] :=
        fun hh => hskip.1 (by simpa using (List.append_eq_nil_iff.1 hh).2)
      rw [if_neg hne]
      refine ⟨hne, fun sub hsub => ?_⟩
      rcases List.mem_append.1 hsub with hsub | hsub
      · obtain ⟨a, b, tail, ht, rfl, c, dests, hc, hab⟩ := viaCell_spec _ _ _ _ _ _ _ hsub
        exact via _ _ _ c dests a b tail hs' hc hab ((ih (string + 1) a (some b) (-1) hs' (by omega)).2 tail ht)
      · obtain ⟨tail, ht, rfl⟩ := List.mem_map.1 hsub
        exact skip _ _ _ tail hs' (hskip.2 tail ht)

theorem follow_spec (res : List (List Cell)) (nstrings maxfret : Nat) (md : Int) :
    ∀ (fuel string next : Nat) (name : Option Str) (prev : Int), string + 1 ≤ nstrings → nstrings - 1 - string ≤ fuel →
      follow res nstrings maxfret md fuel string next name prev ≠ [] ∧
      ∀ sub ∈ follow res nstrings maxfret md fuel string next name prev, sub.length = nstrings - string ∧ sub.head? = some (next, name) := by
  refine follow_ind res nstrings maxfret md
    (fun string next name sub => sub.length = nstrings - string ∧ sub.head? = some (next, name)) ?_ ?_ ?_
  · intro next name h; simp; omega
  · intro string next name c dests a b tail h _ _ ht; simp [ht.1]; omega
  · intro string next name tail h ht; simp [ht.1]; omega

def GoodRow (cur next : List (Nat × Str)) (row : List Cell) : Prop :=
  ∀ j nm dests, row[j]? = some (some (nm, dests)) →
    (∀ d ∈ dests, d ∈ next) ∧ (∀ name, nm = some name → (j, name) ∈ cur)

theorem addCell_good (cur next : List (Nat × Str)) (row : List Cell) (fret : Nat) (name : Option Str) (d : Nat × Str)
    (h : GoodRow cur next row) (hd : d ∈ next) (hn : ∀ nm, name = some nm → (fret, nm) ∈ cur) :
    GoodRow cur next (addCell row fret name d) := by
  intro j nm dests hj
  simp only [addCell, List.getElem?_mapIdx, Option.map_eq_some_iff] at hj
  obtain ⟨c, hrow, hj⟩ := hj
  split at hj
  · rename_i hjf
    subst hjf
    split at hj
    · cases hj
      have := h j _ _ hrow
      exact ⟨fun x hx => (List.mem_append.1 hx).elim (this.1 x) fun hx => by simpa [List.mem_singleton.1 hx] using hd, this.2⟩
    · cases hj
      exact ⟨by simpa using hd, hn⟩
  · exact h j nm dests (hj ▸ hrow)

theorem cellStep_good (cur next : List (Nat × Str)) (maxfret : Nat) (md : Int) (k fret : Nat) (name : Str) (row : List Cell)
    (d : Nat × Str) (hc : (fret, name) ∈ cur) (hd : d ∈ next) (h : GoodRow cur next row) :
    GoodRow cur next (cellStep maxfret md k fret name row d) := by
  have ite_good : ∀ (c : Prop) [Decidable c] (row : List Cell) (fret : Nat) (name : Option Str), GoodRow cur next row →
      (∀ nm, name = some nm → (fret, nm) ∈ cur) → GoodRow cur next (if c then addCell row fret name d else row) := by
    intro c _ row fret name h hn
    split
    · exact addCell_good cur next row fret name d h hd hn
    · exact h
  exact ite_good _ _ _ none (ite_good _ row fret (some name) h (by simp [hc])) (by simp)

theorem tableRow_good (cur next : List (Nat × Str)) (maxfret : Nat) (md : Int) :
    GoodRow cur next (tableRow cur next maxfret md) := by
  refine List.foldlRecOn _ _ ?_ fun row ih x hx => List.foldlRecOn _ _ ih fun row ihd d hd =>
    cellStep_good cur next maxfret md _ _ _ row d (List.of_mem_zip hx).2 hd ihd
  intro j nm dests hj
  rw [List.getElem?_replicate] at hj
  split at hj <;> simp at hj

theorem makeTable_good (fretdict : List (List (Nat × Str))) (maxfret : Nat) (md : Int) (x : Nat) (row : List Cell)
    (h : (makeTable fretdict maxfret md)[x]? = some row) :
    GoodRow (fretdict.getD x []) (fretdict.getD (x + 1) []) row := by
  simp only [makeTable, List.getElem?_map, Option.map_eq_some_iff] at h
  obtain ⟨y, hy, rfl⟩ := h
  obtain ⟨_, rfl⟩ := List.getElem?_eq_some_iff.1 hy
  rw [List.getElem_range]
  exact tableRow_good _ _ _ _

def OnDict (fretdict : List (List (Nat × Str))) (string : Nat) (sub : List (Nat × Option Str)) : Prop :=
  ∀ idx p, sub[idx]? = some p → ∀ nm, p.2 = some nm → (p.1, nm) ∈ fretdict.getD (string + idx) []

theorem OnDict_cons (fretdict : List (List (Nat × Str))) (string : Nat) (p : Nat × Option Str) (sub : List (Nat × Option Str))
    (hp : ∀ nm, p.2 = some nm → (p.1, nm) ∈ fretdict.getD string [])
    (hs : OnDict fretdict (string + 1) sub) : OnDict fretdict string (p :: sub) := by
  intro idx q hq nm hnm
  cases idx with
  | zero => simp at hq; subst hq; simpa using hp nm hnm
  | succ k =>
    simp only [List.getElem?_cons_succ] at hq
    have := hs k q hq nm hnm
    have e : string + 1 + k = string + (k + 1) := by omega
    rwa [e] at this

theorem follow_onDict (fretdict : List (List (Nat × Str))) (res : List (List Cell)) (nstrings maxfret : Nat) (md : Int)
    (hres : ∀ string next c dests, (res.getD string []).getD next none = some (c, dests) →
      ∀ d ∈ dests, d ∈ fretdict.getD (string + 1) [])
    (fuel string next : Nat) (name : Option Str) (prev : Int) (hs : string + 1 ≤ nstrings) (hf : nstrings - 1 - string ≤ fuel)
    (hname : ∀ nm, name = some nm → (next, nm) ∈ fretdict.getD string []) :
    ∀ sub ∈ follow res nstrings maxfret md fuel string next name prev, OnDict fretdict string sub := by
  intro sub hsub
  refine (follow_ind res nstrings maxfret md (fun string next name sub =>
    (∀ nm, name = some nm → (next, nm) ∈ fretdict.getD string []) → OnDict fretdict string sub) ?_ ?_ ?_
    fuel string next name prev hs hf).2 sub hsub hname
  · intro next name _ hname
    exact OnDict_cons _ _ _ _ hname (by intro idx q hq; simp at hq)
  · intro string next name c dests a b tail _ hc hab ht hname
    exact OnDict_cons _ _ _ _ hname (ht (by intro nm hnm; cases hnm; exact hres _ _ _ _ hc _ hab))
  · intro string next name tail _ ht hname
    exact OnDict_cons _ _ _ _ hname (ht (by simp))

theorem makeTable_dests (fretdict : List (List (Nat × Str))) (maxfret : Nat) (md : Int) (string next : Nat) (c : Option Str)
    (dests : List (Nat × Str)) (h : ((makeTable fretdict maxfret md).getD string []).getD next none = some (c, dests)) :
    ∀ d ∈ dests, d ∈ fretdict.getD (string + 1) [] := by
  simp only [List.getD_eq_getElem?_getD] at h
  cases hr : (makeTable fretdict maxfret md)[string]? with
  | none => simp [hr] at h
  | some row =>
    cases hc : row[next]? with
    | none => simp [hr, hc] at h
    | some cell =>
      simp only [hr, hc, Option.getD_some] at h
      exact (makeTable_good fretdict maxfret md string row hr next c dests (h ▸ hc)).1

theorem findNoteNames_spec (t : Tuning) (names : List Str) (string maxfret : Nat) (l : List (Nat × Str))
    (h : findNoteNames t names string maxfret = .ok l) (x : Nat) (nm : Str) (hx : (x, nm) ∈ l) :
    x ≤ maxfret ∧ nm ∈ names ∧ ∃ (n : Note) (si : Int), t[string]? = some (TString.one n) ∧ n.toInt = .ok si ∧
      Notes.noteToInt nm = .ok ((si % 12 + (x : Int)) % 12) := by
  simp only [findNoteNames, bind_eq_ok] at h
  obtain ⟨ints, hints, h⟩ := h
  split at h
  · cases h
  · cases h
  · rename_i n hn
    obtain ⟨si, hsi, h⟩ := bind_eq_ok.1 h
    cases pure_eq_ok.1 h
    simp only [List.mem_filterMap, List.mem_range] at hx
    obtain ⟨y, hy, hsome⟩ := hx
    cases hf : ints.findIdx? (· == (si % 12 + (y : Int)) % 12) with
    | none => rw [hf] at hsome; cases hsome
    | some i =>
      rw [hf] at hsome
      cases hsome
      obtain ⟨hi, hieq, _⟩ := List.findIdx?_eq_some_iff_getElem.1 hf
      obtain ⟨a, ha, hfa⟩ := mapM_getElem? hints (List.getElem?_eq_getElem hi)
      rw [beq_iff_eq] at hieq
      have hget : names.getD i [] = a := by simp [List.getD_eq_getElem?_getD, ha]
      exact ⟨by omega, hget ▸ List.mem_of_getElem? ha, n, si, hn, hsi, by rw [hget, hfa, hieq]⟩

theorem mem_filterE {α} (p : α → Except Err Bool) : ∀ (l r : List α), filterE p l = .ok r → ∀ a ∈ r, a ∈ l ∧ p a = .ok true := by
  intro l
  induction l with
  | nil => intro r h a ha; cases pure_eq_ok.1 h; cases ha
  | cons x xs ih =>
    intro r h a ha
    simp only [filterE, bind_eq_ok, pure_eq_ok] at h
    obtain ⟨b, hb, rs, hrs, rfl⟩ := h
    have hrec := fun ha => (ih rs hrs a ha).imp (List.mem_cons_of_mem x) id
    cases b with
    | false => exact hrec ha
    | true =>
      rcases List.mem_cons.1 ha with rfl | ha
      · exact ⟨List.mem_cons_self, hb⟩
      · exact hrec ha

theorem fretsOf_getElem (sub : List (Nat × Option Str)) (idx : Nat) (fr : Int) (h : (fretsOf sub)[idx]? = some (some fr)) :
    ∃ nm, sub[idx]? = some (fr.toNat, some nm) ∧ ((fr.toNat : Nat) : Int) = fr := by
  simp only [fretsOf, List.getElem?_map, Option.map_eq_some_iff] at h
  obtain ⟨⟨f, o⟩, hs, h⟩ := h
  cases o with
  | none => simp at h
  | some nm =>
    cases (by simpa using h : (f : Int) = fr)
    exact ⟨nm, by simpa using hs, by simp⟩

theorem minFret_le (named : List (Nat × Option Str)) : ∀ p ∈ named, p.1 ≠ 0 → minFret named ≤ p.1 := by
  refine foldl_inv _ (fun (m : Int) done => ∀ p ∈ done, p.1 ≠ 0 → m ≤ (p.1 : Int)) named 1000 (by simp) ?_
  intro m q _ done ih p hp hp0
  rcases List.mem_append.1 hp with hp | hp
  · have := ih p hp hp0; split <;> omega
  · cases List.mem_singleton.1 hp; split <;> omega

theorem maxFret_ge (named : List (Nat × Option Str)) : ∀ p ∈ named, p.1 ≠ 0 → (p.1 : Int) ≤ maxFretOf named := by
  refine foldl_inv _ (fun (m : Int) done => ∀ p ∈ done, p.1 ≠ 0 → (p.1 : Int) ≤ m) named (-1000) (by simp) ?_
  intro m q _ done ih p hp hp0
  rcases List.mem_append.1 hp with hp | hp
  · have := ih p hp hp0; split <;> omega
  · cases List.mem_singleton.1 hp; split <;> omega

theorem acceptSub_ok (notenames : List Str) (md : Int) (sub : List (Nat × Option Str)) (a : List (Option Int))
    (h : acceptSub notenames md sub = some a) :
    a = fretsOf sub ∧
      (∀ p ∈ sub, ∀ q ∈ sub, p.2.isSome = true → q.2.isSome = true → p.1 ≠ 0 → q.1 ≠ 0 → (p.1 : Int) - q.1 < md) ∧
      ∀ nm ∈ notenames, ∃ fr, (fr, some nm) ∈ sub := by
  unfold acceptSub at h
  simp only at h
  split at h
  · rename_i hc
    simp only [Bool.and_eq_true, decide_eq_true_eq, List.all_eq_true] at hc
    obtain ⟨⟨hspan, hcover⟩, _⟩ := hc
    refine ⟨(Option.some.inj h).symm, fun p hp q hq hps hqs hp0 hq0 => ?_, fun nm hnm => ?_⟩
    · have h1 := maxFret_ge (sub.filter fun p => p.2.isSome) p (List.mem_filter.2 ⟨hp, hps⟩) hp0
      have h2 := minFret_le (sub.filter fun p => p.2.isSome) q (List.mem_filter.2 ⟨hq, hqs⟩) hq0
      omega
    · have hc := hcover nm hnm
      simp only [List.contains_iff_mem, List.mem_filterMap, List.mem_filter] at hc
      obtain ⟨⟨fr, o⟩, ⟨hp, _⟩, rfl⟩ := hc
      exact ⟨fr, hp⟩
  · cases h

theorem findChordFingering_mem (t : Tuning) (names : List Str) (md : Int) (maxfret maxFingers : Nat) (r : List (List (Option Int)))
    (h : findChordFingering t names md maxfret maxFingers = .ok r) (a : List (Option Int)) (ha : a ∈ r) :
    ∃ notenames fretdict row0 rows sub, chordNames names = .ok notenames ∧
      (List.range t.length).mapM (fun x => findNoteNames t notenames x maxfret) = .ok fretdict ∧
      makeTable fretdict maxfret md = row0 :: rows ∧ sub ∈ candidates (row0 :: rows) row0 t.length maxfret md ∧
      acceptSub notenames md sub = some a ∧ withinFingers maxFingers a = .ok true := by
  simp only [findChordFingering, bind_eq_ok] at h
  obtain ⟨notenames, hnn, h⟩ := h
  split at h
  · cases pure_eq_ok.1 h; cases ha
  · obtain ⟨fretdict, hfd, h⟩ := bind_eq_ok.1 h
    split at h
    · cases h
    · rename_i row0 rows hres
      obtain ⟨hmem, hfing⟩ := mem_filterE _ _ r h a ha
      obtain ⟨sub, hsub, hacc⟩ := List.mem_filterMap.1 ((mem_sortBy _ _ _).1 hmem)
      exact ⟨notenames, fretdict, row0, rows, sub, hnn, hfd, hres, hres ▸ hsub, hacc, hfing⟩

/-- **find_chord_fingering, soundness.**  Every fingering returned has one entry per string; every fretted entry lies
    within 0..maxfret and sounds the pitch class of a note of the chord; every note name of the chord is sounded by some
    entry; and the finger limit is respected. -/
theorem chord_sound (t : Tuning) (names : List Str) (md : Int) (maxfret maxFingers : Nat) (r : List (List (Option Int)))
    (h : findChordFingering t names md maxfret maxFingers = .ok r) (a : List (Option Int)) (ha : a ∈ r) :
    ∃ notenames, chordNames names = .ok notenames ∧
      a.length = t.length ∧
      (∀ (idx : Nat) (fr : Int), a[idx]? = some (some fr) → 0 ≤ fr ∧ fr ≤ maxfret ∧ ∃ nm ∈ notenames, ∃ (n : Note) (si : Int),
        t[idx]? = some (TString.one n) ∧ n.toInt = .ok si ∧ Notes.noteToInt nm = .ok ((si % 12 + fr) % 12)) ∧
      (∀ nm ∈ notenames, ∃ (idx : Nat) (fr : Int), a[idx]? = some (some fr) ∧ ∃ (n : Note) (si : Int),
        t[idx]? = some (TString.one n) ∧ n.toInt = .ok si ∧ Notes.noteToInt nm = .ok ((si % 12 + fr) % 12)) ∧
      (∃ k, fingersNeeded a = .ok k ∧ k ≤ maxFingers) := by
  obtain ⟨notenames, fretdict, row0, rows, sub, hnn, hfd, hres, hsub, hacc, hfing⟩ :=
    findChordFingering_mem t names md maxfret maxFingers r h a ha
  refine ⟨notenames, hnn, ?_⟩
  -- the candidate: first-string cell, destination, continuation
  simp only [candidates, List.mem_flatMap] at hsub
  obtain ⟨⟨i, y⟩, hiy, hsub⟩ := hsub
  cases y with
  | none => simp at hsub
  | some cell =>
    obtain ⟨yname, next⟩ := cell
    simp only [List.mem_flatMap, List.mem_map] at hsub
    obtain ⟨d, hd, s, hs, rfl⟩ := hsub
    rw [← hres] at hs
    have hgood := makeTable_good fretdict maxfret md 0 row0 (by rw [hres]; rfl) i yname next ((mem_zip_range row0 i _).1 hiy)
    have h2 : 1 + 1 ≤ t.length := by
      -- the table has a first row, so there are at least two strings
      have hl : (makeTable fretdict maxfret md).length = fretdict.length - 1 := by simp [makeTable]
      have hfl : fretdict.length = t.length := by rw [(mapM_ok hfd).1]; simp
      rw [hres] at hl
      simp at hl; omega
    have hslen := ((follow_spec (makeTable fretdict maxfret md) t.length maxfret md t.length 1 d.1 (some d.2) (-1) h2
      (by omega)).2 s hs).1
    have hon : OnDict fretdict 0 ((i, yname) :: s) :=
      OnDict_cons _ _ _ _ (by intro nm hnm; exact hgood.2 nm hnm)
        (follow_onDict fretdict _ t.length maxfret md (makeTable_dests fretdict maxfret md) t.length 1 d.1 (some d.2) (-1) h2
          (by omega) (by intro nm hnm; cases hnm; simpa using hgood.1 d hd) s hs)
    obtain ⟨rfl, _, hcover⟩ := acceptSub_ok _ _ _ _ hacc
    have hdict : ∀ (idx fr : Nat) (nm : Str), ((i, yname) :: s)[idx]? = some (fr, some nm) →
        fr ≤ maxfret ∧ nm ∈ notenames ∧ ∃ (n : Note) (si : Int), t[idx]? = some (TString.one n) ∧ n.toInt = .ok si ∧
          Notes.noteToInt nm = .ok ((si % 12 + (fr : Int)) % 12) := by
      intro idx fr nm hidx
      have hin := hon idx (fr, some nm) hidx nm rfl
      simp only [Nat.zero_add, List.getD_eq_getElem?_getD] at hin
      cases hfdi : fretdict[idx]? with
      | none => simp [hfdi] at hin
      | some l =>
        obtain ⟨x, hx, hfx⟩ := mapM_getElem? hfd hfdi
        obtain ⟨_, rfl⟩ := List.getElem?_eq_some_iff.1 hx
        rw [List.getElem_range] at hfx
        exact findNoteNames_spec t notenames idx maxfret l hfx fr nm (by simpa [hfdi] using hin)
    refine ⟨by simp [fretsOf, hslen]; omega, ?_, ?_, ?_⟩
    · intro idx fr hidx
      obtain ⟨nm, hsubidx, hcast⟩ := fretsOf_getElem _ idx fr hidx
      obtain ⟨h1, h2', n, si, h3, h4, h5⟩ := hdict idx fr.toNat nm hsubidx
      exact ⟨by omega, by omega, nm, h2', n, si, h3, h4, hcast ▸ h5⟩
    · intro nm hnm
      obtain ⟨fr, hp⟩ := hcover nm hnm
      obtain ⟨idx, hidx⟩ := List.mem_iff_getElem?.1 hp
      obtain ⟨_, _, n, si, h3, h4, h5⟩ := hdict idx fr nm hidx
      exact ⟨idx, (fr : Int), by unfold fretsOf; rw [List.getElem?_map, hidx]; simp, n, si, h3, h4, h5⟩
    · obtain ⟨k, hk, hfing⟩ := bind_eq_ok.1 hfing
      exact ⟨k, hk, by simpa using pure_eq_ok.1 hfing⟩

/-- **the span limit of the fingerings returned**: fretted positions (neither open nor unplayed) are less than `max_distance`
    apart -/
theorem chord_span (t : Tuning) (names : List Str) (md : Int) (maxfret maxFingers : Nat) (r : List (List (Option Int)))
    (h : findChordFingering t names md maxfret maxFingers = .ok r) (a : List (Option Int)) (ha : a ∈ r) :
    ∀ f ∈ a, ∀ g ∈ a, ∀ x y : Int, f = some x → g = some y → x ≠ 0 → y ≠ 0 → x - y < md := by
  obtain ⟨_, _, _, _, sub, _, _, _, _, hacc, _⟩ := findChordFingering_mem t names md maxfret maxFingers r h a ha
  obtain ⟨rfl, hspan, _⟩ := acceptSub_ok _ _ _ _ hacc
  intro f hf g hg x y hfx hgy hx0 hy0
  subst hfx hgy
  obtain ⟨i, hi⟩ := List.mem_iff_getElem?.1 hf
  obtain ⟨j, hj⟩ := List.mem_iff_getElem?.1 hg
  obtain ⟨_, hp, hx⟩ := fretsOf_getElem _ i x hi
  obtain ⟨_, hq, hy⟩ := fretsOf_getElem _ j y hj
  have := hspan _ (List.mem_of_getElem? hp) _ (List.mem_of_getElem? hq) rfl rfl (by simp; omega) (by simp; omega)
  omega

end Mingus.Props.C20
