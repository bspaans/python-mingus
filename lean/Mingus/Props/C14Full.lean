import Mingus.Props.C14
/-
  C14 — every bar except the last is full, after ANY history of `add_notes` (any instrument, accepted, refused or
  range-rejected items), and the sum of the entry lengths is exactly the sum of the accepted lengths (track without an
  instrument).
-/
namespace Mingus.Props.C14
open Mingus Mingus.Containers

def AllButLastFull (bars : List Bar) : Prop := ∀ b ∈ bars.dropLast, b.isFull = true

theorem prepared_full (t : Track) (h : AllButLastFull t.bars) : AllButLastFull (Track.prepared t) := by
  rcases prepared_cases t with ⟨_, hp⟩ | ⟨last, hl, ⟨_, hp⟩ | ⟨hf, hp⟩⟩ <;> rw [hp]
  · intro b hb; cases hb
  · exact h
  · obtain ⟨init, hi⟩ := List.getLast?_eq_some_iff.1 hl
    intro b hb
    rw [List.dropLast_concat, hi] at hb
    rcases List.mem_append.1 hb with hb | hb
    · exact h b (by rwa [hi, List.dropLast_concat])
    · rw [List.mem_singleton.1 hb]; exact hf

theorem addNotes_keeps_full (t : Track) (c : Option NC) (v : Rat) (h : AllButLastFull t.bars) (ok : Bool) (t' : Track)
    (hr : t.addNotes c v = .ok (ok, t')) : AllButLastFull t'.bars := by
  cases addNotes_ok hr
  intro b hb
  simp only [List.dropLast_concat] at hb
  exact prepared_full t h b hb

theorem history_bars_full (its : List (Option NC × Rat)) : ∀ (t : Track), AllButLastFull t.bars →
    AllButLastFull (run t its).2.bars := by
  induction its with
  | nil => intro t h; exact h
  | cons it rest ih =>
    intro t h
    obtain ⟨c, v⟩ := it
    simp only [run]
    cases hr : t.addNotes c v with
    | error e => simp only; exact ih t h
    | ok r =>
      obtain ⟨ok, t'⟩ := r
      simp only
      exact ih t' (addNotes_keeps_full t c v h ok t' hr)

theorem empty_full : AllButLastFull ({} : Track).bars := by intro b hb; simp at hb

/-- **the sum of entry lengths is the sum of accepted lengths** (exact reciprocals of the stored values), for any history
    on a track without an instrument -/
theorem history_lengths (its : List (Option NC × Rat)) (t : Track) (hi : t.instrument = none) :
    ((items (run t its).2).map fun p => 1 / p.1).sum =
      ((items t).map fun p => 1 / p.1).sum + (((its.zip (run t its).1).filter (·.2)).map fun p => 1 / p.1.2).sum := by
  rw [(history_items its t hi).1, List.map_append, List.sum_append, List.map_map]
  rfl

end Mingus.Props.C14
