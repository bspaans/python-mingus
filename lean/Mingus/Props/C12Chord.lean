import Mingus.Props.C12
import Mingus.Props.C10
import Mingus.Props.C06
/-
  C12 — the container built from a chord shorthand (`from_chord_shorthand`): the chord's names added one by one as bare names.

  `bare_from`: a container built from ANY list of valid bare names comes about, and when every name's unreduced offset
  (natural + accidentals) lies in 0..11 it is what the statement says: the first name in octave 4, every further note at
  or above the one before and less than an octave above it (`voicing_partial`, name after name), hence kept in the order
  given; a name that repeats the top pitch is dropped.  `chord_constructor` is the instance for the chords of C06's
  `shorthand_formula` on the 21 roots.
-/
namespace Mingus.Props.C12
open Mingus Mingus.Notes Mingus.Containers Mingus.Containers.NC

def nameOffset (nm : Str) : Int := match nm with | [] => 0 | l :: t => (natural? l).getD 0 + accVal t
def ascendingWithinOctave : NC → Bool
  | a :: b :: rest => decide (a.pitch ≤ b.pitch ∧ b.pitch < a.pitch + 12) && ascendingWithinOctave (b :: rest)
  | _ => true
/-- what is claimed of a chord's container (below: every shorthand × the 21 roots with at most one accidental) -/
def chordCtorOK (sh : Str) : Bool :=
  match Chords.fromShorthand sh, NC.fromChordShorthand sh with
  | .ok names, .ok nc =>
    if names.all (fun n => decide (0 ≤ nameOffset n ∧ nameOffset n ≤ 11)) then
      (nc.head?.map (·.octave) == some 4) && (nc.head?.map (·.name) == names.head?) && ascendingWithinOctave nc &&
      (nc.length != names.length || nc.map (·.name) == names)
    else true
  | _, _ => false
def roots21 : List Str := Keys.baseScale.flatMap fun l => [[l], [l, '#'], [l, 'b']]

theorem new_valid {nm : Str} (h : valid nm = true) (o : Int) : Note.new nm o none none = .ok ⟨nm, o, 1, 64⟩ :=
  Note.setNote_valid _ nm h o

def voiced (c : NC) (nm : Str) : Note :=
  match c.getLast? with
  | none => ⟨nm, 4, 1, 64⟩
  | some top =>
    if (⟨nm, top.octave, 1, 64⟩ : Note).pitch < top.pitch then ⟨nm, top.octave + 1, 1, 64⟩ else ⟨nm, top.octave, 1, 64⟩

theorem voiced_name (c : NC) (nm : Str) : (voiced c nm).name = nm := by
  unfold voiced; split
  · rfl
  · split <;> rfl

theorem addNote_bare {c : NC} {nm : Str} (hv : valid nm = true) (hc : ∀ n ∈ c, valid n.name = true) :
    addNote c (.bare nm) = .ok (addNoteObj c (voiced c nm)) := by
  unfold addNote voiced
  cases h : c.getLast? with
  | none => simp [new_valid hv]
  | some top =>
    have := (C10.comparisons ⟨nm, top.octave, 1, 64⟩ top _ _ (Note.toInt_valid hv) (Note.toInt_valid (hc top (List.mem_of_getLast? h)))).1
    by_cases hlt : (⟨nm, top.octave, 1, 64⟩ : Note).pitch < top.pitch <;>
      simp [new_valid hv, this, hlt]

/-- the range of the statement: the unreduced offset (natural + accidentals) lies within the octave -/
def OffOK (nm : Str) : Prop := 0 ≤ nameOffset nm ∧ nameOffset nm ≤ 11

theorem pitch_valid {n : Note} (h : valid n.name = true) : n.pitch = n.octave * 12 + nameOffset n.name := by
  obtain ⟨l, t, hn⟩ := exists_cons_of_valid h
  simp [Note.pitch, nameOffset, hn]; omega

theorem le_top {c : NC} (hI : Inv c) {top : Note} (ht : c.getLast? = some top) : ∀ a ∈ c, a.pitch ≤ top.pitch := by
  obtain ⟨init, rfl⟩ := List.getLast?_eq_some_iff.1 ht
  intro a ha
  rcases List.mem_append.1 ha with ha | ha
  · exact Int.le_of_lt ((List.pairwise_append.1 hI).2.2 a ha top (by simp))
  · exact List.mem_singleton.1 ha ▸ Int.le_refl _

/-- the left case: the name lands on the top pitch and is dropped -/
theorem voiced_step {c : NC} {nm : Str} (hI : Inv c) (hc : ∀ n ∈ c, valid n.name = true ∧ OffOK n.name)
    (hv : valid nm = true) (ho : OffOK nm) {top : Note} (ht : c.getLast? = some top) :
    addNoteObj c (voiced c nm) = c ∨
      (addNoteObj c (voiced c nm) = c ++ [voiced c nm] ∧ top.pitch < (voiced c nm).pitch ∧
        (voiced c nm).pitch < top.pitch + 12) := by
  have htop := hc top (List.mem_of_getLast? ht)
  have hp := pitch_valid htop.1
  have h1 := pitch_valid (n := ⟨nm, top.octave, 1, 64⟩) hv
  have h2 := pitch_valid (n := ⟨nm, top.octave + 1, 1, 64⟩) hv
  dsimp only at h1 h2
  have hb := voicing_partial top ⟨nm, top.octave, 1, 64⟩ (by have := htop.2; simp only [offset, OffOK] at *; omega)
    (by simp only [offset, OffOK] at *; omega) rfl ⟨nm, top.octave + 1, 1, 64⟩ (by omega)
  rw [show (if (⟨nm, top.octave, 1, 64⟩ : Note).pitch < top.pitch then (⟨nm, top.octave + 1, 1, 64⟩ : Note)
    else ⟨nm, top.octave, 1, 64⟩) = voiced c nm by simp only [voiced, ht]] at hb
  rw [addNoteObj_eq c _ hI]
  split
  · exact .inl rfl
  · rename_i hne
    have hlt : ∀ a ∈ c, a.pitch < (voiced c nm).pitch := fun a ha => by
      have := le_top hI ht a ha
      have : a.pitch ≠ (voiced c nm).pitch := fun e => hne ⟨a, ha, e⟩
      omega
    exact .inr ⟨insertSorted_at_end _ c hlt, by have := hlt top (List.mem_of_getLast? ht); omega, hb.2⟩

theorem asc_snoc : ∀ (c : NC) (n : Note), ascendingWithinOctave c = true →
    (∀ top, c.getLast? = some top → top.pitch ≤ n.pitch ∧ n.pitch < top.pitch + 12) →
    ascendingWithinOctave (c ++ [n]) = true
  | [], _, _, _ => rfl
  | [a], n, _, h => by simpa [ascendingWithinOctave] using h a rfl
  | a :: b :: r, n, hc, h => by
    simp only [ascendingWithinOctave, Bool.and_eq_true, List.cons_append] at hc ⊢
    exact ⟨hc.1, asc_snoc (b :: r) n hc.2 (by simpa using h)⟩

/-- what the statement says of a container built from bare names `p`, all in the range of the statement -/
structure Built (p : List Str) (c : NC) : Prop where
  ok : ∀ n ∈ c, OffOK n.name
  asc : ascendingWithinOctave c = true
  sub : (c.map (·.name)).Sublist p
  head : c.head? = p.head?.map (⟨·, 4, 1, 64⟩)

def Reached (p : List Str) (c : NC) : Prop :=
  Inv c ∧ (∀ n ∈ c, valid n.name = true) ∧ ((∀ nm ∈ p, OffOK nm) → Built p c)

theorem reached_step {p : List Str} {c : NC} {nm : Str} (h : Reached p c) (hnm : valid nm = true) :
    Reached (p ++ [nm]) (addNoteObj c (voiced c nm)) := by
  obtain ⟨hI, hval, hB⟩ := h
  refine ⟨addNoteObj_inv c _ hI, fun x hx => ?_, fun ho => ?_⟩
  · rcases (addNoteObj_mem c _ hI x).1 hx with hx | ⟨rfl, -⟩
    · exact hval x hx
    · rwa [voiced_name]
  · obtain ⟨hop, honm⟩ : (∀ x ∈ p, OffOK x) ∧ OffOK nm := by simpa [or_imp, forall_and] using ho
    have hB := hB hop
    cases ht : c.getLast? with
    | none =>
      obtain rfl : c = [] := List.getLast?_eq_none_iff.1 ht
      obtain rfl : p = [] := by simpa using hB.head.symm
      exact ⟨by simpa [addNoteObj_nil, voiced] using honm, rfl, by simp [addNoteObj_nil, voiced], rfl⟩
    | some top =>
      have hcne : c ≠ [] := fun e => by simp [e] at ht
      have hpne : p ≠ [] := fun e => by have := hB.head; simp [e, List.head?_eq_none_iff, hcne] at this
      have hhead : (p ++ [nm]).head? = p.head? := by cases p <;> simp_all
      rcases voiced_step hI (fun n hn => ⟨hval n hn, hB.ok n hn⟩) hnm honm ht with e | ⟨e, h1, h2⟩ <;> rw [e]
      · exact ⟨hB.ok, hB.asc, hB.sub.trans (List.sublist_append_left _ _), by rw [hhead, hB.head]⟩
      · refine ⟨?_, asc_snoc c _ hB.asc fun t' ht' => ?_, ?_, ?_⟩
        · simpa [or_imp, forall_and, voiced_name, honm] using hB.ok
        · cases ht.symm.trans ht'; exact ⟨Int.le_of_lt h1, h2⟩
        · simpa [voiced_name] using hB.sub.append (List.Sublist.refl [nm])
        · rw [hhead, ← hB.head]; cases c <;> simp_all

theorem bare_from : ∀ (q p : List Str) (c : NC), (∀ nm ∈ q, valid nm = true) → Reached p c →
    ∃ c', addNotes c (q.map .bare) = .ok c' ∧ Reached (p ++ q) c'
  | [], p, c, _, h => ⟨c, rfl, by simpa using h⟩
  | nm :: q, p, c, hv, h => by
    obtain ⟨hnm, hq⟩ := List.forall_mem_cons.1 hv
    obtain ⟨c', hc', hr⟩ := bare_from q (p ++ [nm]) _ hq (reached_step h hnm)
    refine ⟨c', ?_, by simpa using hr⟩
    simp only [addNotes, List.map_cons, List.foldlM_cons, addNote_bare hnm h.2.1] at hc' ⊢
    exact hc'

theorem chordCtorOK_of_valid {sh : Str} {names : List Str} {root : Str} (h : Chords.fromShorthand sh = .ok names)
    (hv : ∀ nm ∈ names, valid nm = true) (hroot : names.head? = some root) : chordCtorOK sh = true := by
  obtain ⟨nc, hnc, -, -, hB⟩ := bare_from names [] [] hv ⟨.nil, by simp, fun _ => ⟨by simp, rfl, .slnil, rfl⟩⟩
  have hnc' : NC.fromChordShorthand sh = .ok nc := by simp [NC.fromChordShorthand, h, hnc]
  simp only [chordCtorOK, h, hnc']
  split
  · rename_i hall
    obtain ⟨-, hasc, hsub, hhead⟩ := hB fun nm hnm => show 0 ≤ nameOffset nm ∧ nameOffset nm ≤ 11 from of_decide_eq_true (List.all_eq_true.1 hall nm hnm)
    simp only [List.nil_append] at hsub hhead
    have : nc.length ≠ names.length ∨ nc.map (·.name) = names := by
      by_cases hl : nc.length = names.length
      · exact .inr (hsub.eq_of_length (by simpa using hl))
      · exact .inl hl
    simp_all
  · rfl

theorem chord_constructor : ∀ row ∈ Chords.chordShorthand, ∀ r ∈ roots21, chordCtorOK (r ++ row.1) = true := by
  intro row hrow r hr
  have hv : valid r = true := (by decide : ∀ r ∈ roots21, valid r = true) r hr
  obtain ⟨l, t, rfl⟩ := exists_cons_of_valid hv
  obtain ⟨ns, specs, -, hns, hspec, hhead⟩ := C06.shorthand_formula row.1 row.2 hrow l t hv
  exact chordCtorOK_of_valid hns (Chords.matchSpec_valid hspec) hhead

end Mingus.Props.C12
