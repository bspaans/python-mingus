import Mingus.Props.C06
/-
  C06 — slash chords (`slash_parse`) and polychords (`poly_parse`) for every known shorthand on every root and bass note with
  any accidentals; `slash_chord` and `polychord` are their instances on finite domains (`polychord` on the one the check's
  generator draws from).
  Nesting - a polychord whose halves are themselves slash chords or polychords - is left to the correspondence check
  (`poly_step` allows any right-hand side that `normalize` leaves unchanged).
-/
namespace Mingus.Props.C06
open Mingus Mingus.Notes Mingus.Keys Mingus.Intervals Mingus.Scales Mingus.Chords

theorem normalize_barrier (c : Char) (hc : c = '|' ∨ c = '/') (a b : Str) :
    normalize (a ++ c :: b) = normalize a ++ c :: normalize b :=
  normalize_sep c (by rcases hc with rfl | rfl <;> decide) a b

theorem scanRest_lastSlash (bass : Str) (hb : ∀ ch ∈ bass, ch ≠ '/' ∧ ch ≠ '|') : ∀ (k : Str), '|' ∉ k → ∀ (i : Nat) (sl : Option Nat),
    scanRest (k ++ '/' :: bass) i sl = (none, some (i + k.length)) := by
  intro k hk i sl
  rw [scanRest_append k _ hk, scanRest, if_pos rfl, scanRest_noSep bass hb]

theorem not_exception (k : Str) (l : Char) (t : Str) (hl : isLetter l = true) :
    slashExceptions.contains (k ++ '/' :: (l :: t)) = false := by
  -- the three chord names with a slash in them contain no note letter at all
  have h : ∀ e ∈ slashExceptions, ∀ c ∈ e, isLetter c = false := by decide
  cases hc : slashExceptions.contains (k ++ '/' :: (l :: t)) with
  | false => rfl
  | true => simpa [hl] using h _ (List.contains_iff_mem.1 hc) l (by simp)

theorem head_sep {k : Str} (hh : ∀ ch, k.head? = some ch → ch ≠ '#' ∧ ch ≠ 'b') (c : Char) (hc : c ≠ '#' ∧ c ≠ 'b')
    (y : Str) : ∀ ch, (k ++ c :: y).head? = some ch → ch ≠ '#' ∧ ch ≠ 'b' := by
  cases k with
  | nil => rintro ch ⟨⟩; exact hc
  | cons a r => exact hh

/-- a text with a separator in it gives the parser fuel for two levels -/
theorem fuel_sep (a b : Str) (c : Char) (hc : c = '|' ∨ c = '/') : ∃ f, sepCount (a ++ c :: b) + 1 = f + 2 := by
  refine ⟨sepCount a + sepCount b, ?_⟩
  rw [sepCount_append, sepCount]
  rcases hc with rfl | rfl <;> simp [sepCount] <;> omega

/-- slash chords: the bass note followed by the chord, for every known shorthand, every root and every bass note name -/
theorem slash_parse (k : Str) (es : List NoteExpr) (hk : (k, es) ∈ chordShorthand)
    (l : Char) (t : Str) (hv : valid (l :: t) = true) (bl : Char) (bt : Str) (hbv : valid (bl :: bt) = true) :
    Chords.fromShorthand ((l :: t) ++ k ++ '/' :: (bl :: bt)) =
      (evalBuilder es (l :: t)).bind fun res => .ok ((bl :: bt) :: res) := by
  have hp : Plain k := (key_plain _ hk).1
  have ⟨hnorm, hhead, hbar, _⟩ := hp
  have hb := root_chars hbv
  obtain ⟨f, hf⟩ := fuel_sep ((l :: t) ++ k) (bl :: bt) '/' (Or.inr rfl)
  have hn : normalize ((l :: t) ++ k ++ '/' :: (bl :: bt)) = (l :: t) ++ (k ++ '/' :: (bl :: bt)) := by
    have : normalize (bl :: bt) = bl :: bt := by simpa [show normalize [] = [] from rfl] using normalize_root hbv []
    rw [List.append_assoc, normalize_root hv, normalize_barrier '/' (Or.inr rfl), hnorm, this]
  -- one step: the last slash is the one before the bass and the text is no exception name; then a plain name with `.note bass`
  rw [Chords.fromShorthand, hf, parse_step hv hn (head_sep hhead '/' (by decide) _),
    scanRest_lastSlash _ (fun ch hc => (hb ch hc).2) k hbar]
  simp only [not_exception k bl bt (valid_cons.1 hbv).1, Bool.false_eq_true, if_false, Nat.zero_add, List.take_left']
  rw [show List.drop (k.length + 1) (k ++ '/' :: bl :: bt) = bl :: bt by simp, parse_step_plain hv hp hnorm,
    fromShorthandAux.finish, key_lookup hk]
  simp only [hbv, if_true]
  cases evalBuilder es (l :: t) <;> rfl

theorem poly_step (k1 : Str) (es1 : List NoteExpr) (hk1 : (k1, es1) ∈ chordShorthand)
    (l1 : Char) (t1 : Str) (hv1 : valid (l1 :: t1) = true) (Y : Str) (hY : normalize Y = Y) (f : Nat) :
    fromShorthandAux (f + 2) ((l1 :: t1) ++ (k1 ++ '|' :: Y)) .none =
      (fromShorthandAux (f + 1) Y .none).bind fun right => fromShorthandAux.finish (l1 :: t1) k1 (.chord right) := by
  have hp : Plain k1 := (key_plain _ hk1).1
  have ⟨hnorm, hhead, hbar, _⟩ := hp
  have hn : normalize ((l1 :: t1) ++ (k1 ++ '|' :: Y)) = (l1 :: t1) ++ (k1 ++ '|' :: Y) := by
    rw [normalize_root hv1, normalize_barrier '|' (Or.inl rfl), hnorm, hY]
  rw [parse_step hv1 hn (head_sep hhead '|' (by decide) _), scanRest_append k1 _ hbar, scanRest, if_neg (by decide), if_pos rfl]
  simp only [Nat.zero_add, List.take_left', show List.drop (k1.length + 1) (k1 ++ '|' :: Y) = Y by simp]
  congr 1
  funext right
  exact parse_step_plain hv1 hp hnorm f _

/-- polychords: `X|Y` is Y's notes followed by X's notes (a note equal to the one just before it not repeated), for
    every pair of known shorthands and every pair of roots -/
theorem poly_parse (k1 : Str) (es1 : List NoteExpr) (hk1 : (k1, es1) ∈ chordShorthand)
    (k2 : Str) (es2 : List NoteExpr) (hk2 : (k2, es2) ∈ chordShorthand)
    (l1 : Char) (t1 : Str) (hv1 : valid (l1 :: t1) = true) (l2 : Char) (t2 : Str) (hv2 : valid (l2 :: t2) = true) :
    Chords.fromShorthand ((l1 :: t1) ++ k1 ++ '|' :: ((l2 :: t2) ++ k2)) =
      (evalBuilder es2 (l2 :: t2)).bind fun right => (evalBuilder es1 (l1 :: t1)).bind fun res => polyAppend right res := by
  have hp2 : Plain k2 := (key_plain _ hk2).1
  obtain ⟨f, hf⟩ := fuel_sep ((l1 :: t1) ++ k1) ((l2 :: t2) ++ k2) '|' (Or.inl rfl)
  rw [Chords.fromShorthand, hf, List.append_assoc,
    poly_step k1 es1 hk1 l1 t1 hv1 _ (by rw [normalize_root hv2, hp2.1]) f, parse_step_plain hv2 hp2 hp2.1]
  simp only [fromShorthandAux.finish, key_lookup hk1, key_lookup hk2]
  cases evalBuilder es2 (l2 :: t2) with
  | error e => rfl
  | ok right => cases evalBuilder es1 (l1 :: t1) <;> rfl

def roots21 : List Str := baseScale.flatMap fun l => [[l], [l, '#'], [l, 'b']]
def basses : List Str := [lit "G", lit "Bb", lit "F#", lit "E"]
def slashOK (r k b : Str) : Bool :=
  match Chords.fromShorthand (r ++ k), Chords.fromShorthand (r ++ k ++ lit "/" ++ b) with
  | .ok ch, .ok sl => sl == b :: ch
  | _, _ => false

theorem slash_chord : ∀ row ∈ chordShorthand, ∀ r ∈ roots21, ∀ b ∈ basses, slashOK r row.1 b = true := by
  intro ⟨k, es⟩ hk r hr b hb
  have hr : valid r = true := (by decide : ∀ r ∈ roots21, valid r = true) r hr
  have hb : valid b = true := (by decide : ∀ b ∈ basses, valid b = true) b hb
  obtain ⟨l, t, rfl⟩ := exists_cons_of_valid hr
  obtain ⟨bl, bt, rfl⟩ := exists_cons_of_valid hb
  obtain ⟨ch, _, _, hch, _, _⟩ := builder_formula k es hk l t hr
  unfold slashOK
  rw [show (l :: t) ++ k ++ lit "/" ++ (bl :: bt) = (l :: t) ++ k ++ '/' :: (bl :: bt) by simp [lit],
    plain_parse k es hk l t hr, slash_parse k es hk l t hr bl bt hb, hch]
  exact beq_self_eq_true _

def specPoly (x y : List Str) : List Str :=
  x.foldl (fun acc n => if acc.getLast? = some n then acc else acc ++ [n]) y
def reps : List Str := ["", "m", "dim", "aug", "7", "M7", "m7", "sus4", "6", "9", "m7b5", "5", "13", "7b5"].map String.toList
def rootPairs : List (Str × Str) :=
  [("C", "G"), ("D", "F#"), ("Bb", "Bb"), ("E", "C"), ("A", "E"), ("F#", "Db")].map fun p => (p.1.toList, p.2.toList)
def polyOK (x y : Str) : Bool :=
  match Chords.fromShorthand x, Chords.fromShorthand y, Chords.fromShorthand (x ++ lit "|" ++ y) with
  | .ok cx, .ok cy, .ok p => p == specPoly cx cy
  | _, _, _ => false

/-- on a non-empty left operand `polyAppend` is the specification's fold (on an empty one `r[-1]` raises IndexError at
    the first note to append, hence `r ≠ []`) -/
theorem polyAppend_eq_specPoly (res : List Str) : ∀ r : List Str, r ≠ [] → polyAppend r res = .ok (specPoly res r) := by
  induction res with
  | nil => intro r _; rfl
  | cons n ns ih =>
    intro r hr
    obtain ⟨i, a, rfl⟩ : ∃ i a, r = i ++ [a] := ⟨_, _, (List.dropLast_concat_getLast hr).symm⟩
    simp only [polyAppend, specPoly, List.foldl_cons, List.getLast?_concat, Option.some.injEq]
    by_cases h : a = n
    · simpa [h, specPoly] using ih _ hr
    · simpa [h, Ne.symm h, specPoly] using ih (i ++ [a] ++ [n]) (by simp)

theorem polychord : ∀ k1 ∈ reps, ∀ k2 ∈ reps, ∀ rp ∈ rootPairs, polyOK (rp.1 ++ k1) (rp.2 ++ k2) = true := by
  intro k1 h1 k2 h2 ⟨x, y⟩ hp
  have known : ∀ k ∈ reps, k ∈ chordShorthand.map (·.1) := by decide
  obtain ⟨⟨_, es1⟩, hk1, rfl⟩ := List.mem_map.1 (known k1 h1)
  obtain ⟨⟨_, es2⟩, hk2, rfl⟩ := List.mem_map.1 (known k2 h2)
  obtain ⟨hx, hy⟩ := (by decide : ∀ rp ∈ rootPairs, valid rp.1 = true ∧ valid rp.2 = true) _ hp
  obtain ⟨l1, t1, rfl⟩ := exists_cons_of_valid hx
  obtain ⟨l2, t2, rfl⟩ := exists_cons_of_valid hy
  obtain ⟨cx, _, _, hcx, _, _⟩ := builder_formula _ es1 hk1 l1 t1 hx
  obtain ⟨cy, _, _, hcy, _, hhead⟩ := builder_formula _ es2 hk2 l2 t2 hy
  have hne : cy ≠ [] := by intro e; simp [e] at hhead
  unfold polyOK
  rw [show ∀ a b : Str, a ++ lit "|" ++ b = a ++ '|' :: b by simp [lit], plain_parse _ es1 hk1 l1 t1 hx,
    plain_parse _ es2 hk2 l2 t2 hy, poly_parse _ es1 hk1 _ es2 hk2 l1 t1 hx l2 t2 hy, hcx, hcy]
  simp only [Except.bind, polyAppend_eq_specPoly cx cy hne]
  exact beq_self_eq_true _

example : Chords.fromShorthand (lit "F##m7/Bb") = .ok [lit "Bb", lit "F##", lit "A#", lit "C##", lit "E#"] := by decide +kernel
example : Chords.fromShorthand (lit "Dm|G7") = .ok [lit "G", lit "B", lit "D", lit "F", lit "D", lit "F", lit "A"] := by decide +kernel
example : Chords.fromShorthand (lit "G|C") = .ok [lit "C", lit "E", lit "G", lit "B", lit "D"] := by decide +kernel

end Mingus.Props.C06
