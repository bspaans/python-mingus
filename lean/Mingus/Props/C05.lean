import Mingus.Lemmas.Scales
/-
  C05 — every scale realises its defining step pattern; scale recognition is exact.
  * free-tonic classes (Diatonic with any semitone positions, the seven modes, WholeTone, Octatonic):
    unbounded in the tonic's accidentals and in the octave count;
  * key-derived classes (major/minor families, Chromatic): the whole finite tonic table in the kernel; the families
    unbounded in the octave count, Chromatic for its one-octave lists (`chromatic_bases`, `chromatic_descending`);
  * recognition: arbitrary note lists.
-/
namespace Mingus.Props.C05
open Mingus Mingus.Notes Mingus.Keys Mingus.Intervals Mingus.Scales

def pattern : Kind → List Int
  | .ionian => [2,2,1,2,2,2,1] | .dorian => [2,1,2,2,2,1,2] | .phrygian => [1,2,2,2,1,2,2]
  | .lydian => [2,2,2,1,2,2,1] | .mixolydian => [2,2,1,2,2,1,2] | .aeolian => [2,1,2,2,1,2,2]
  | .locrian => [1,2,2,1,2,2,2] | .major => [2,2,1,2,2,2,1] | .harmonicMajor => [2,2,1,2,1,3,1]
  | .naturalMinor => [2,1,2,2,1,2,2] | .harmonicMinor => [2,1,2,2,1,3,1] | .melodicMinor => [2,1,2,2,2,2,1]
  | .bachian => [2,1,2,2,2,2,1] | .minorNeapolitan => [1,2,2,2,1,3,1]
  | .wholeTone => [2,2,2,2,2,2] | .octatonic => [2,1,2,1,2,1,2,1]
  | .chromatic => [1,1,1,1,1,1,1,1,1,1,1,1]
  | .diatonic sem =>
    let ds := (List.range 6).map fun (i : Nat) => if sem.contains ((i : Int) + 1) then (1 : Int) else 2
    ds ++ [(0 - ds.sum) % 12]
/-- descending patterns (read upward) of the two classes that do not descend as they ascend -/
def descPattern : Kind → List Int
  | .melodicMinor => [2,1,2,2,1,2,2]      -- natural minor
  | .minorNeapolitan => [1,2,2,2,1,2,2]   -- natural minor with the lowered second
  | k => pattern k

/-- what the statement says about a full (multi-octave) note list -/
def ListOK (pat : List Int) (tonic : Str) (n : Nat) (L : List Str) : Prop :=
  L.head? = some tonic ∧ L.getLast? = some tonic ∧ stepsP (L.map pc) = (List.replicate n pat).flatten ∧
  L.length = n * pat.length + 1

/-- what it says about the one-octave list that gets repeated -/
def BaseOK (pat : List Int) (tonic : Str) (b : List Str) : Prop :=
  b.head? = some tonic ∧ stepsP (b.map pc ++ [pc tonic]) = pat ∧ b.length = pat.length

theorem octs_spec (pat : List Int) (tonic : Str) (b : List Str) (h : BaseOK pat tonic b) (n : Int) :
    ∃ L, octs b n = .ok L ∧ ListOK pat tonic n.toNat L := by
  obtain ⟨hh, hs, hl⟩ := h
  obtain ⟨rest, rfl⟩ := List.head?_eq_some_iff.1 hh
  refine ⟨_, rfl, by cases n.toNat <;> rfl, by simp, ?_, ?_⟩
  · simp only [List.map_append, List.map_flatten, List.map_replicate, List.map_cons, List.map_nil]
    rw [steps_repeat, ← hs, List.map_cons]
  · simp [List.length_flatten, List.map_replicate, List.sum_replicate_nat, ← hl]

theorem ascending_of_base (sc : Scale) (pat : List Int) (b : List Str)
    (hi : initCheck sc = .ok ()) (hb : baseAsc sc.kind sc.tonic = .ok b) (hok : BaseOK pat sc.tonic b) :
    ∃ L, ascending sc = .ok L ∧ ListOK pat sc.tonic sc.octaves.toNat L := by
  obtain ⟨L, h1, h2⟩ := octs_spec pat sc.tonic b hok sc.octaves
  exact ⟨L, by simp [ascending, hi, hb, h1], h2⟩

theorem valid_not_lower (n : Str) (h : valid n = true) : pyIsLower n = false := by
  obtain ⟨l, t, rfl⟩ := exists_cons_of_valid h
  have : l.isUpper = true := (by decide : ∀ l ∈ baseScale, l.isUpper = true) l (mem_baseScale (valid_cons.1 h).1)
  simp [pyIsLower, this]

/-- the pattern's last entry is the step that closes the octave -/
theorem seconds_base (f : Nat → Str → Except Err Str) (d : Nat → Int) (is : List Nat)
    (hf : ∀ i ∈ is, ∀ n, f i n = ctor 1 (d i) n) (hd : ∀ i ∈ is, 0 ≤ d i ∧ d i < 12)
    (l : Char) (t : Str) (hv : valid (l :: t) = true) :
    ∃ b, grow f is [l :: t] = .ok b ∧ BaseOK (is.map d ++ [(0 - (is.map d).sum) % 12]) (l :: t) b ∧
      b.map (fun x => x.headD ' ') = lettersUp l is.length := by
  obtain ⟨ext, h1, h2, h3, _⟩ := grow_spec f d is
    (fun i hi n l' p h => hf i hi n ▸ ctor_good 1 (by decide) (d i) (hd i hi) h) [] (l :: t) l _ (good_of_valid l t hv)
  refine ⟨(l :: t) :: ext, h1, ⟨rfl, ?_, ?_⟩, h3⟩
  · rw [h2, stepsP_pcsFrom_closed, List.map_map]
    congr 1
    · exact List.map_congr_left fun i hi => Int.emod_eq_of_lt (hd i hi).1 (hd i hi).2
    · congr 1; omega
  · rw [← List.length_map (f := pc), h2, pcsFrom_length]; simp

theorem diatonic_base (l : Char) (t : Str) (hv : valid (l :: t) = true) (sem : List Int) :
    ∃ b, diatonicNotes (l :: t) sem = .ok b ∧ BaseOK (pattern (.diatonic sem)) (l :: t) b ∧
      b.map (fun x => x.headD ' ') = lettersUp l 6 :=
  seconds_base _ (fun i => if sem.contains ((i : Int) + 1) then 1 else 2) (List.range 6)
    (fun i _ n => by split <;> rfl) (fun i _ => by split <;> omega) l t hv

theorem wholeTone_base (l : Char) (t : Str) (hv : valid (l :: t) = true) :
    ∃ b, wholeToneNotes (l :: t) = .ok b ∧ BaseOK (pattern .wholeTone) (l :: t) b :=
  (seconds_base _ (fun _ => 2) (List.range 5) (fun _ _ _ => rfl) (fun _ _ => by omega) l t hv).imp
    fun _ h => ⟨h.1, h.2.1⟩

theorem octatonic_base (l : Char) (t : Str) (hv : valid (l :: t) = true) :
    ∃ b, octatonicNotes (l :: t) = .ok b ∧ BaseOK (pattern .octatonic) (l :: t) b := by
  have hg := good_of_valid l t hv
  obtain ⟨a1, ha1, g1⟩ := ctor_good 1 (by decide) 2 (by decide) hg
  obtain ⟨b1, hb1, k1⟩ := ctor_good 2 (by decide) 3 (by decide) hg
  obtain ⟨a2, ha2, g2⟩ := ctor_good 1 (by decide) 2 (by decide) k1
  obtain ⟨b2, hb2, k2⟩ := ctor_good 2 (by decide) 3 (by decide) k1
  obtain ⟨a3, ha3, g3⟩ := ctor_good 1 (by decide) 2 (by decide) k2
  obtain ⟨b3, hb3, _⟩ := ctor_good 2 (by decide) 3 (by decide) k2
  obtain ⟨sv, hsv, gsv⟩ := ctor_good 6 (by decide) 11 (by decide) hg
  obtain ⟨sx, hsx, gsx⟩ := ctor_good 5 (by decide) 9 (by decide) hg
  refine ⟨[l :: t, a1, b1, a2, b2, a3, sx, sv], ?_, rfl, ?_, rfl⟩
  · simp [octatonicNotes, majorSecond, minorThird, majorSeventh, majorSixth, ha1, hb1, ha2, hb2, ha3, hb3, hsv, hsx]
  · simp only [List.map_cons, List.map_nil, g1.2.2, k1.2.2, g2.2.2, k2.2.2, g3.2.2, gsx.2.2, gsv.2.2, pattern,
      List.cons_append, List.nil_append, stepsP_cons2, stepsP_single, List.cons.injEq, and_true]
    omega

/-- the seven modes are `Diatonic` with the semitone positions of `modeSemis` -/
theorem mode_base {k : Kind} {sem : List Int} (h : modeSemis k = some sem) {t : Str}
    (hd : ∃ b, diatonicNotes t sem = .ok b ∧ BaseOK (pattern (.diatonic sem)) t b) :
    ∃ b, baseAsc k t = .ok b ∧ BaseOK (pattern k) t b := by
  have : baseAsc k t = diatonicNotes t sem ∧ pattern k = pattern (.diatonic sem) := by
    cases k <;> cases h <;> exact ⟨rfl, by decide⟩
  rwa [this.1, this.2]

def IsFree : Kind → Prop
  | .diatonic _ | .ionian | .dorian | .phrygian | .lydian | .mixolydian | .aeolian | .locrian | .wholeTone => True
  | _ => False

/-- ascending form of every free-tonic class: any valid tonic (any accidentals), any octave count -/
theorem free_ascending (k : Kind) (hk : IsFree k ∨ k = .octatonic) (l : Char) (t : Str) (hv : valid (l :: t) = true)
    (oct : Int) :
    ∃ L, ascending ⟨k, l :: t, oct⟩ = .ok L ∧ ListOK (pattern k) (l :: t) oct.toNat L := by
  have dia : ∀ sem, ∃ b, baseAsc (.diatonic sem) (l :: t) = .ok b ∧ BaseOK (pattern (.diatonic sem)) (l :: t) b :=
    fun sem => (diatonic_base l t hv sem).imp fun _ h => ⟨h.1, h.2.1⟩
  have base : ∃ b, baseAsc k (l :: t) = .ok b ∧ BaseOK (pattern k) (l :: t) b := by
    cases k with
    | diatonic sem => exact dia sem
    | ionian | dorian | phrygian | lydian | mixolydian | aeolian | locrian => exact mode_base rfl (dia _)
    | wholeTone => exact wholeTone_base l t hv
    | octatonic => exact octatonic_base l t hv
    | _ => simp [IsFree] at hk
  obtain ⟨b, hb, hok⟩ := base
  refine ascending_of_base ⟨k, l :: t, oct⟩ (pattern k) b ?_ hb hok
  cases k <;> simp_all [initCheck, IsFree, valid_not_lower _ hv]

/-- heptatonic free-tonic scales use consecutive letters -/
theorem diatonic_letters (l : Char) (t : Str) (hv : valid (l :: t) = true) (sem : List Int) :
    ∃ b, diatonicNotes (l :: t) sem = .ok b ∧ b.map (fun x => x.headD ' ') = lettersUp l 6 := by
  obtain ⟨b, h1, _, h3⟩ := diatonic_base l t hv sem
  exact ⟨b, h1, h3⟩

def baseCheck (k : Kind) (tonic : Str) (expectTonic : Str) (hept : Bool) : Bool :=
  match initCheck ⟨k, tonic, 1⟩, baseAsc k tonic with
  | .ok _, .ok b =>
    b.head? == some expectTonic && stepsP (b.map pc ++ [pc expectTonic]) == pattern k && b.length == (pattern k).length
    && b.all valid
    && (!hept || b.map (fun x => x.headD ' ') == lettersUp (expectTonic.headD ' ') 6)
  | _, _ => false

def upperFirst : Str → Str
  | [] => []
  | c :: t => c.toUpper :: t
def minorTonics : List Str := minorKeys.map upperFirst

theorem major_family_bases : ∀ k ∈ majorFamily, ∀ t ∈ majorKeys, baseCheck k t t true = true := by decide +kernel
theorem minor_family_bases : ∀ k ∈ minorFamily, ∀ t ∈ minorTonics, baseCheck k t t true = true := by decide +kernel
theorem chromatic_bases : ∀ key ∈ allKeys, baseCheck .chromatic key (upperFirst key) false = true := by decide +kernel

theorem baseCheck_sound (k : Kind) (tonic : Str) (oct : Int) (hept : Bool) (h : baseCheck k tonic tonic hept = true) :
    ∃ L, ascending ⟨k, tonic, oct⟩ = .ok L ∧ ListOK (pattern k) tonic oct.toNat L := by
  unfold baseCheck at h
  split at h
  · rename_i u b hi hb
    simp only [Bool.and_eq_true, beq_iff_eq] at h
    -- `initCheck` does not look at the octave count
    exact ascending_of_base ⟨k, tonic, oct⟩ (pattern k) b hi hb ⟨h.1.1.1.1, h.1.1.1.2, h.1.1.2⟩
  · cases h

/-- major and minor families: every tonic of the key table, every octave count -/
theorem family_ascending :
    (∀ k ∈ majorFamily, ∀ t ∈ majorKeys, ∀ oct : Int,
      ∃ L, ascending ⟨k, t, oct⟩ = .ok L ∧ ListOK (pattern k) t oct.toNat L) ∧
    (∀ k ∈ minorFamily, ∀ t ∈ minorTonics, ∀ oct : Int,
      ∃ L, ascending ⟨k, t, oct⟩ = .ok L ∧ ListOK (pattern k) t oct.toNat L) :=
  ⟨fun k hk t ht oct => baseCheck_sound k t oct true (major_family_bases k hk t ht),
   fun k hk t ht oct => baseCheck_sound k t oct true (minor_family_bases k hk t ht)⟩

theorem descending_is_reverse (sc : Scale) (h1 : sc.kind ≠ .melodicMinor) (h2 : sc.kind ≠ .minorNeapolitan)
    (h3 : sc.kind ≠ .chromatic) (L : List Str) (hL : ascending sc = .ok L) :
    descending sc = .ok L.reverse := by
  obtain ⟨_, hi, _⟩ := bind_eq_ok.1 hL
  obtain ⟨k, t, o⟩ := sc
  cases k <;> simp_all [descending]

def descCheck (k : Kind) (tonic : Str) : Bool :=
  match descending ⟨k, tonic, 1⟩ with
  | .ok d => d.head? == some tonic && d.getLast? == some tonic
      && stepsP (d.reverse.map pc) == descPattern k && d.all valid
  | _ => false
/-- melodic minor descends as natural minor, minor Neapolitan as natural minor with the lowered second
    (one octave, all 15 minor tonics) -/
theorem special_descending : ∀ k ∈ [Kind.melodicMinor, Kind.minorNeapolitan], ∀ t ∈ minorTonics, descCheck k t = true := by
  decide +kernel
theorem chromatic_descending : ∀ key ∈ allKeys,
    (match descending ⟨.chromatic, key, 1⟩ with
     | .ok d => d.head? == some (upperFirst key) && d.getLast? == some (upperFirst key)
         && stepsP (d.reverse.map pc) == pattern .chromatic
     | _ => false) = true := by decide +kernel

theorem degree_spec (sc : Scale) (n : Int) (hn : 1 ≤ n) :
    degree sc n ['a'] = (do let a ← ascending sc
                            match a.dropLast[(n - 1).toNat]? with | some x => pure x | none => throw .index) ∧
    degree sc n ['d'] = (do let d ← descending sc
                            match d.reverse.dropLast[(n - 1).toNat]? with | some x => pure x | none => throw .index) ∧
    (∀ m : Int, m < 1 → ∀ dir, degree sc m dir = .error .range) := by
  have : ¬ n < 1 := by omega
  refine ⟨?_, ?_, ?_⟩
  · unfold degree; rw [if_neg this, if_pos rfl]; rfl
  · unfold degree; rw [if_neg this, if_neg (by decide), if_pos rfl]; rfl
  · intro m hm dir; simp [degree, hm]

theorem len_spec (sc : Scale) (L : List Str) (h : ascending sc = .ok L) : len sc = .ok L.length := by
  simp [len, h]

theorem eq_spec (a b : Scale) (x y xd yd : List Str) (h1 : ascending a = .ok x) (h2 : ascending b = .ok y)
    (h3 : descending a = .ok xd) (h4 : descending b = .ok yd) :
    Scales.eq a b = .ok (decide (x = y ∧ xd = yd)) := by
  by_cases h : x = y
  · by_cases h' : xd = yd <;> simp [Scales.eq, h1, h2, h3, h4, h, h']
  · simp [Scales.eq, h1, h2, h]

def ascOf (e : Str × Scale) : List Str := match ascending e.2 with | .ok a => a | _ => []
def descOf (e : Str × Scale) : List Str := match descending e.2 with | .ok a => a | _ => []
def hits (notes : List Str) (e : Str × Scale) : Bool := subset notes (ascOf e) || subset notes (descOf e)

theorem entries_ok : ∀ e ∈ entries, (ascending e.2).toBool = true ∧ (descending e.2).toBool = true := by
  decide +kernel

/-- the scanned scales are exactly the 2 major-family and 5 minor-family classes on all 15 key pairs -/
theorem entries_are_the_families :
    entries.length = 15 * 7 ∧
    entries.map (·.2) = keys.flatMap (fun c =>
      (majorFamily.map fun k => (⟨k, c.1, 1⟩ : Scale)) ++ (minorFamily.map fun k => ⟨k, upperFirst c.2, 1⟩)) ∧
    ∀ e ∈ entries, e.1 = name e.2.kind e.2.tonic := by decide +kernel

theorem foldlM_filter {α β : Type} (step : List β → α → Except Err (List β)) (p : α → Bool) (g : α → β)
    (es : List α) (h : ∀ e ∈ es, ∀ acc, step acc e = .ok (if p e then acc ++ [g e] else acc)) (acc : List β) :
    es.foldlM step acc = .ok (acc ++ (es.filter p).map g) := by
  induction es generalizing acc with
  | nil => simp
  | cons e es ih =>
    obtain ⟨he, h⟩ := List.forall_mem_cons.1 h
    rw [List.foldlM_cons, he, ok_bind, ih h, List.filter_cons]
    split <;> simp

/-- `determine` returns exactly the family scales whose ascending or descending note set contains every given note -/
theorem determine_spec (notes : List Str) :
    Scales.determine notes = .ok ((entries.filter (hits notes)).map (·.1)) := by
  rw [Scales.determine, foldlM_filter _ (hits notes) (·.1) entries, List.nil_append]
  intro e he acc
  have := entries_ok e he
  unfold hits ascOf descOf
  cases ha : ascending e.2 <;> cases hd : descending e.2 <;>
    simp_all [Except.toBool]

theorem determine_exact (notes : List Str) (nm : Str) :
    (∃ r, Scales.determine notes = .ok r ∧ (nm ∈ r ↔
      ∃ e ∈ entries, e.1 = nm ∧ ((∀ x ∈ notes, x ∈ ascOf e) ∨ (∀ x ∈ notes, x ∈ descOf e)))) := by
  refine ⟨_, determine_spec notes, ?_⟩
  simp only [List.mem_map, List.mem_filter, hits, subset, Bool.or_eq_true, List.all_eq_true,
    List.contains_iff_mem]
  constructor
  · rintro ⟨e, ⟨he, hm⟩, rfl⟩; exact ⟨e, he, rfl, hm⟩
  · rintro ⟨e, he, rfl, hm⟩; exact ⟨e, ⟨he, hm⟩, rfl⟩

example : ascending ⟨.dorian, lit "D", 1⟩ = .ok (["D","E","F","G","A","B","C","D"].map String.toList) := by decide +kernel
example : ascending ⟨.octatonic, lit "C#b#", 2⟩ =
    .ok (["C#b#","D#","E","F#","G","A","A#","B#","C#b#","D#","E","F#","G","A","A#","B#","C#b#"].map String.toList) := by
  decide +kernel
example : descending ⟨.melodicMinor, lit "A", 1⟩ = .ok (["A","G","F","E","D","C","B","A"].map String.toList) := by
  decide +kernel
example : Scales.determine [lit "A", lit "Bb", lit "E", lit "F#", lit "G"] =
    .ok (["G melodic minor", "G Bachian", "D harmonic major"].map String.toList) := by decide +kernel

end Mingus.Props.C05
