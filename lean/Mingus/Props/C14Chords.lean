import Mingus.Props.C14
import Mathlib.Data.List.Forall2
/-
  C14 — for every chord and every rest of a (possibly nested) chord list, in order, `Track.from_chords` adds at most two
  entries with that leaf's content, and nothing else.

  `leaves` is the statement's reading of the nested list: the chords and rests from left to right, a nested group halving
  the length of what it contains (value × 2 per level).  That the lengths of the two pieces of a split leaf add up to the
  leaf's length is float arithmetic and is left to the correspondence.
-/
namespace Mingus.Props.C14
open Mingus Mingus.Containers Mingus.Containers.Track

def leaves : ChordItem → Rat → List (Option Str × Rat)
  | .group items, v => items.flatMap fun c => leaves c (F64.mul v 2)
  | .rest, v => [(none, v)]
  | .chord sh, v => [(some sh, v)]

def ContentOf : Option Str → Option NC → Prop
  | none, c => c = none
  | some sh, c => ∃ nc, NC.fromChordShorthand sh = .ok nc ∧ c = some nc

/-- at most two pieces: a leaf that does not fit is split into what the bar has left and the remainder, and either may be
    refused -/
def PieceOf (leaf : Option Str × Rat) (ps : List (Rat × Option NC)) : Prop :=
  ∃ c, ContentOf leaf.1 c ∧ (ps = [(leaf.2, c)] ∨ ps.length ≤ 2) ∧ ∀ p ∈ ps, p.2 = c

/-- what `add_chord` does with a chord or a rest once its content is known: place it whole, or else fill the bar with what
    is left of it and place the remainder -/
def placeLeaf (t : Track) (content : Option NC) (v : Rat) : Except Err Track := do
  let (ok, t1) ← addNotes t content v
  if ok then pure t1
  else do
    let last := t1.bars.getLast?.getD {}
    let dur ← last.valueLeft
    let (_, t2) ← addNotes t1 content dur
    let rest := F64.div 1 (F64.sub (F64.div 1 v) (F64.div 1 dur))
    let (_, t3) ← addNotes t2 content rest
    pure t3

theorem addChord_rest (t : Track) (v : Rat) : addChord t .rest v = placeLeaf t none v := by
  rw [addChord]
  · rfl
  all_goals nofun

theorem addChord_chord (t : Track) (sh : Str) (v : Rat) :
    addChord t (.chord sh) v = NC.fromChordShorthand sh >>= fun nc => placeLeaf t (some nc) v := by
  rw [addChord]
  simp [placeLeaf]

/-- What `addChord_places` and `fromChords_places` conclude, as a relation between the track before and after: it composes
    along `++` of the leaves, which is all the fold over a chord list needs. -/
def Places (ls : List (Option Str × Rat)) (t t' : Track) : Prop :=
  ∃ pieces, List.Forall₂ PieceOf ls pieces ∧ items t' = items t ++ pieces.flatten ∧ t'.instrument = t.instrument

theorem Places.refl (t : Track) : Places [] t t := ⟨[], .nil, by simp, rfl⟩

theorem Places.trans {a b t t' t''} (h1 : Places a t t') (h2 : Places b t' t'') : Places (a ++ b) t t'' := by
  obtain ⟨p1, f1, e1, i1⟩ := h1
  obtain ⟨p2, f2, e2, i2⟩ := h2
  exact ⟨p1 ++ p2, List.rel_append f1 f2, by simp [e2, e1], by rw [i2, i1]⟩

theorem Places.leaf {l t t' ps} (hp : PieceOf l ps) (he : items t' = items t ++ ps) (hi : t'.instrument = t.instrument) :
    Places [l] t t' :=
  ⟨[ps], .cons hp .nil, by simpa using he, hi⟩

theorem placeLeaf_places (t t' : Track) (l : Option Str) (c : Option NC) (v : Rat) (hc : ContentOf l c)
    (h : placeLeaf t c v = .ok t') : Places [(l, v)] t t' := by
  simp only [placeLeaf, bind_eq_ok, Prod.exists] at h
  obtain ⟨ok1, t1, h1, h⟩ := h
  obtain ⟨i1, e1⟩ := addNotes_ok_items h1
  cases ok1 with
  | true => cases h; exact .leaf ⟨c, hc, .inl rfl, by simp⟩ e1 i1
  | false =>
    simp only [Bool.false_eq_true, if_false, bind_eq_ok, Prod.exists, pure_eq_ok] at h
    obtain ⟨dur, -, ok2, t2, h2, ok3, t3, h3, rfl⟩ := h
    obtain ⟨i2, e2⟩ := addNotes_ok_items h2
    obtain ⟨i3, e3⟩ := addNotes_ok_items h3
    simp only [Bool.false_eq_true, if_false, List.append_nil] at e1
    refine .leaf (ps := (if ok2 then [(dur, c)] else []) ++ (if ok3 then [(_, c)] else [])) ⟨c, hc, .inr ?_, ?_⟩
      (by rw [e3, e2, e1, List.append_assoc]) (by rw [i3, i2, i1])
    · cases ok2 <;> cases ok3 <;> simp
    · cases ok2 <;> cases ok3 <;> simp

theorem foldlM_places (cs : List ChordItem) (w : Rat)
    (ih : ∀ (t : Track) (c : ChordItem), c ∈ cs → ∀ t', addChord t c w = .ok t' → Places (leaves c w) t t')
    (t t' : Track) (h : cs.foldlM (fun t c => addChord t c w) t = .ok t') :
    Places (cs.flatMap fun c => leaves c w) t t' :=
  foldlM_inv _ (fun t1 done => Places (done.flatMap fun c => leaves c w) t t1) cs t t' h (.refl t)
    fun t1 c hc t2 done h1 h2 => by simpa using h1.trans (ih t1 c hc t2 h2)

theorem addChord_places : ∀ (t : Track) (item : ChordItem) (v : Rat) (t' : Track), addChord t item v = .ok t' →
    ∃ pieces, List.Forall₂ PieceOf (leaves item v) pieces ∧ items t' = items t ++ pieces.flatten ∧
      t'.instrument = t.instrument := by
  intro t item v t' h
  rw [leaves.eq_def]
  match item with
  | .group its =>
    rw [addChord] at h
    exact foldlM_places its _ (fun t c _ t' h' => addChord_places t c _ t' h') t t' h
  | .chord sh =>
    obtain ⟨nc, hnc, h⟩ := bind_eq_ok.1 (addChord_chord .. ▸ h)
    exact placeLeaf_places _ _ (some sh) _ _ ⟨nc, hnc, rfl⟩ h
  | .rest => exact placeLeaf_places _ _ none _ _ rfl (addChord_rest .. ▸ h)

/-- **`from_chords(chords, duration)`**: every chord and every rest of the nested list contributes, in order, the entries
    `PieceOf` allows (at most two, each with the leaf's content), and nothing else is added -/
theorem fromChords_places (t : Track) (its : List ChordItem) (v : Rat) (t' : Track) (h : fromChords t its v = .ok t') :
    ∃ pieces, List.Forall₂ PieceOf (its.flatMap fun c => leaves c v) pieces ∧ items t' = items t ++ pieces.flatten ∧
      t'.instrument = t.instrument :=
  foldlM_places its v (fun t c _ t' h' => addChord_places t c v t' h') t t' h

example : (addChord {} (.chord (lit "C")) 2).toOption.map (fun t => (items t).map (·.1)) = some [2] := by
  rw [addChord]; decide +kernel

example : (addChord { bars := [(({} : Bar).place none 2).2] } (.chord (lit "Am")) 1).toOption.map
    (fun t => ((items t).map (·.1), t.bars.length)) = some ([2, 2, 2], 2) := by
  rw [addChord]; decide +kernel

end Mingus.Props.C14
