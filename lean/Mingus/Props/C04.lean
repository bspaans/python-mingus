import Mingus.Lemmas.Intervals
/-
  C04 — keys: signatures, key notes, relatives and diatonic steps are consistent.
  The 30 keys are a finite table: the theorems evaluate the *whole* table in the kernel.
  Rejections and the diatonic-step theorem are unbounded (any string, any integer, any accidentals).
-/
namespace Mingus.Props.C04
open Mingus Mingus.Notes Mingus.Keys Mingus.Intervals

def majorPattern : List Int := [2, 2, 1, 2, 2, 2, 1]
def minorPattern : List Int := [2, 1, 2, 2, 1, 2, 2]
/-- circle of fifths: order in which sharps / flats enter a signature -/
def sharpOrder : List Str := ["F#", "C#", "G#", "D#", "A#", "E#", "B#"].map String.toList
def flatOrder : List Str := ["Bb", "Eb", "Ab", "Db", "Gb", "Cb", "Fb"].map String.toList
def steps (ns : List Str) : List Int :=
  (List.range 7).map fun i => (pc (ns.getD ((i + 1) % 7) []) - pc (ns.getD i [])) % 12
def tonicOf : Str → Str
  | [] => []
  | c :: t => c.toUpper :: t
def sameSet (a b : List Str) : Bool := a.all b.contains && b.all a.contains
def lettersFrom (l : Char) : List Char := (List.range 7).map (letterUp l)

/-- everything the statement says about one key -/
def keyOK (k : Str) (isMajor : Bool) : Bool :=
  match getNotes k, getKeySignature k, getKeySignatureAccidentals k with
  | .ok ns, .ok sig, .ok accs =>
    ns.head? == some (tonicOf k)
    && ns.map (·.headD ' ') == lettersFrom ((tonicOf k).headD ' ')
    && steps ns == (if isMajor then majorPattern else minorPattern)
    && sameSet (ns.filter (·.length > 1)) accs
    && ns.all (·.length ≤ 2)
    && accs.length == sig.natAbs
    && accs == (if sig ≥ 0 then sharpOrder.take sig.toNat else flatOrder.take (-sig).toNat)
    && (match getKey sig with | .ok (a, b) => k == (if isMajor then a else b) | _ => false)
    && isValidKey k
  | _, _, _ => false

def coupleOK (c : Str × Str) : Bool :=
  relativeMinor c.1 == .ok c.2 && relativeMajor c.2 == .ok c.1
  && (match getNotes c.1, getNotes c.2 with
      | .ok a, .ok b => sameSet a b && pc (tonicOf c.2) == (pc c.1 + 9) % 12
      | _, _ => false)
  && getKeySignature c.1 == getKeySignature c.2

def modeName (isMajor : Bool) : Str := if isMajor then lit "major" else lit "minor"
/-- the key object's name, written out: "C sharp minor", "E flat major", "G major" -/
def specName (k : Str) (isMajor : Bool) : Str :=
  match tonicOf k with
  | [l] => [l] ++ lit " " ++ modeName isMajor
  | [l, '#'] => [l] ++ lit " sharp " ++ modeName isMajor
  | [l, 'b'] => [l] ++ lit " flat " ++ modeName isMajor
  | _ => []
def keyObjOK (k : Str) (isMajor : Bool) : Bool :=
  match keyObj k, getKeySignature k with
  | .ok (name, mode, sig), .ok sig' => name == specName k isMajor && mode == modeName isMajor && sig == sig'
  | _, _ => false

theorem thirty_keys : majorKeys.length = 15 ∧ minorKeys.length = 15 ∧ allKeys.Nodup := by decide +kernel
theorem all_major_keys : ∀ k ∈ majorKeys, keyOK k true = true := by decide +kernel
theorem all_minor_keys : ∀ k ∈ minorKeys, keyOK k false = true := by decide +kernel
theorem all_relatives : ∀ c ∈ keys, coupleOK c = true := by decide +kernel
theorem all_key_objects :
    (∀ k ∈ majorKeys, keyObjOK k true = true) ∧ (∀ k ∈ minorKeys, keyObjOK k false = true) := by decide +kernel
def sigInverseOK (i : Int) : Bool :=
  match getKey i with
  | .ok (a, b) => getKeySignature a == .ok i && getKeySignature b == .ok i
  | _ => false
theorem getKey_signature_inverse : ∀ i ∈ List.range 15, sigInverseOK ((i : Int) - 7) = true := by decide +kernel

theorem getKey_reject (i : Int) (h : i < -7 ∨ i > 7) : getKey i = .error .range := by
  simp [getKey, h]

theorem isValidKey_iff (k : Str) : isValidKey k = true ↔ k ∈ allKeys := by
  simp only [isValidKey, List.any_eq_true, inCouple, Bool.or_eq_true, beq_iff_eq, allKeys, majorKeys, minorKeys,
    List.mem_append, List.mem_map, and_or_left, exists_or, @eq_comm _ k]

theorem signature_reject (k : Str) (h : isValidKey k = false) : getKeySignature k = .error .noteFormat := by
  have : keys.findIdx? (inCouple k) = none :=
    List.findIdx?_eq_none_iff.2 fun c hc => by simpa using List.any_eq_false.1 h c hc
  rw [getKeySignature, this]

theorem unknown_key_reject (k : Str) (h : isValidKey k = false) :
    getNotes k = .error .noteFormat ∧ getKeySignature k = .error .noteFormat ∧
    getKeySignatureAccidentals k = .error .noteFormat ∧
    (k ≠ [] → keyObj k = .error .noteFormat) := by
  refine ⟨by simp [getNotes, h], signature_reject k h, ?_, ?_⟩
  · simp [getKeySignatureAccidentals, signature_reject k h]
  · intro hne
    cases k with
    | nil => exact absurd rfl hne
    | cons c t => simp [keyObj, signature_reject (c :: t) h]

theorem find?_beq_none {α : Type} {l : List α} {f : α → Str} {k : Str} (h : k ∉ l.map f) :
    l.find? (fun c => k == f c) = none :=
  List.find?_eq_none.2 fun c hc hk => h (List.mem_map.2 ⟨c, hc, (beq_iff_eq.1 hk).symm⟩)

theorem relative_reject (k : Str) :
    (k ∉ minorKeys → relativeMajor k = .error .noteFormat) ∧
    (k ∉ majorKeys → relativeMinor k = .error .noteFormat) :=
  ⟨fun h => by rw [relativeMajor, find?_beq_none h], fun h => by rw [relativeMinor, find?_beq_none h]⟩

theorem interval_head (key : Str) (l : Char) (t : Str) (k : Nat) (hv : valid (l :: t) = true) :
    interval key (l :: t) k = interval key [l] k := by
  have hv1 : valid [l] = true := valid_cons.2 ⟨(valid_cons.1 hv).1, rfl⟩
  simp only [interval, hv, hv1]

def diatonicOK (key : Str) (l : Char) (step : Nat) : Bool :=
  match interval key [l] step, getNotes key with
  | .ok n, .ok ns => ns.contains n && n.head? == some (letterUp l step)
  | _, _ => false

theorem diatonic_table : ∀ key ∈ allKeys, ∀ l ∈ baseScale, ∀ step ∈ List.range 7, diatonicOK key l step = true := by
  decide +kernel

/-- the diatonic second … seventh of any note (any accidentals) in any of the 30 keys is the key's note
    that many letters above the note's letter -/
theorem diatonic_step (key : Str) (hk : key ∈ allKeys) (l : Char) (t : Str) (hv : valid (l :: t) = true)
    (step : Nat) (hs : step < 7) :
    ∃ n ns, interval key (l :: t) step = .ok n ∧ getNotes key = .ok ns ∧ n ∈ ns ∧ n.head? = some (letterUp l step) := by
  have h := diatonic_table key hk l (mem_baseScale (valid_cons.1 hv).1) step (List.mem_range.2 hs)
  rw [interval_head key l t step hv]
  unfold diatonicOK at h
  split at h
  · rename_i n ns h1 h2
    simp only [Bool.and_eq_true, List.contains_iff_mem, beq_iff_eq] at h
    exact ⟨n, ns, h1, h2, h.1, h.2⟩
  · cases h

example : getNotes (lit "f#") = .ok (["F#", "G#", "A", "B", "C#", "D", "E"].map String.toList) := by decide +kernel
example : interval (lit "Ab") (lit "E##b") 2 = .ok (lit "G") := by decide +kernel
example : isValidKey (lit "H") = false ∧ isValidKey (lit "Fb") = false := by decide +kernel

end Mingus.Props.C04
