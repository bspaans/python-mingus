import Mingus.Props.C16Tempo
/-
  C16 — bars, tracks, repeats and the writers refine the specification also when containers carry a tempo.  Only the entry
  is new: the bar, track and writer layers are those of C16Track, which do not depend on what an entry writes.  The
  denotation theorems (note timeline, balance, parse-back) are stated for music without mid-bar tempo changes.
-/
namespace Mingus.Props.C16
open Mingus Mingus.Midi Mingus.Containers

def tempoMeta (b : Int) : Ev := .metaE 81 (be 3 ((60000000 : Int) / b).toNat)

def specEntryT (s : S) (e : MEntry) : List TEv × S :=
  match e.bpm with
  | none => specEntry s e
  | some b =>
    if e.notes = [] then specEntry s (plain e)
    else (⟨s.delay, tempoMeta b⟩ :: (specEntry { s with delay := 0 } (plain e)).1, (specEntry { s with delay := 0 } (plain e)).2)

def okEntryT (e : MEntry) : Prop := okEntry (plain e) ∧ ∀ b, e.bpm = some b → okBpm b

theorem plain_of_none (e : MEntry) (h : e.bpm = none) : plain e = e := by
  cases e; cases h; rfl

theorem okInstr_specEntryT (s : S) (e : MEntry) (h : okInstr s) : okInstr (specEntryT s e).2 := by
  unfold specEntryT
  cases e.bpm with
  | none => exact okInstr_specEntry s e h
  | some b =>
    simp only
    split
    · exact okInstr_specEntry s (plain e) h
    · exact okInstr_specEntry { s with delay := 0 } (plain e) h

theorem entry_refinesT (t : MT) (evs : List TEv) (s : S) (e : MEntry) (hr : Rel t evs s) (hi : okInstr s)
    (he : okEntryT e) :
    ∃ t', t.playEntry e = .ok t' ∧ Rel t' (evs ++ (specEntryT s e).1) (specEntryT s e).2 := by
  obtain ⟨hp, hb⟩ := he
  unfold specEntryT
  cases hbpm : e.bpm with
  | none =>
    rw [plain_of_none e hbpm] at hp
    exact let ⟨t', h1, h2, _⟩ := entry_refines e hp t evs s hr hi; ⟨t', h1, h2⟩
  | some b =>
    by_cases hn : e.notes = []
    · obtain ⟨t', (h1 : t.playEntry (plain e) = _), h2, _⟩ := entry_refines (plain e) hp t evs s hr hi
      exact ⟨t', (rest_tempo_silent t e hp.1 hn).trans ((rest_tempo_silent t (plain e) hp.1 hn).symm.trans h1),
        by simpa [hn] using h2⟩
    · obtain ⟨t', h1, h2⟩ := entry_tempo_refines t evs s e b hbpm (hb b hbpm) hr hi hp hn
      exact ⟨t', h1, by simpa [hn, tempoMeta] using h2⟩

def specEntriesT (s : S) : List MEntry → List TEv × S
  | [] => ([], s)
  | e :: es => ((specEntryT s e).1 ++ (specEntriesT (specEntryT s e).2 es).1, (specEntriesT (specEntryT s e).2 es).2)

theorem specEntriesT_eq : specEntriesT = thread specEntryT := by
  funext s es; induction es generalizing s <;> simp [specEntriesT, *]

theorem specEntriesT_plain (es : List MEntry) (h : ∀ e ∈ es, e.bpm = none) : ∀ s, specEntriesT s es = specEntries s es := by
  rw [specEntriesT_eq, specEntries_eq]
  exact thread_congr fun e he s => by rw [specEntryT, h e he]

def okBarT (b : MBar) : Prop :=
  0 ≤ b.count ∧ b.count < 256 ∧ 1 ≤ b.unit ∧ (keyEv? b.key).isSome = true ∧ ∀ e ∈ b.entries, okEntryT e

def specBarT (s : S) (b : MBar) : List TEv × S :=
  ([⟨s.delay, meterEv b⟩, ⟨0, keyEv b.key⟩] ++ (specEntriesT { s with delay := 0 } b.entries).1,
   (specEntriesT { s with delay := 0 } b.entries).2)

theorem bar_refinesT (b : MBar) (hb : okBarT b) : Refines okInstr (·.playBar b) (specBarT · b) := by
  obtain ⟨b1, b2, b3, b4, b5⟩ := hb
  exact bar_refines_of (ses := (specEntriesT · b.entries)) b ⟨b1, b2, b3⟩ b4
    (specEntriesT_eq ▸ Refines.foldlM fun e he t evs s hr hi =>
      let ⟨t', h1, h2⟩ := entry_refinesT t evs s e hr hi (b5 e he); ⟨t', h1, h2, okInstr_specEntryT s e hi⟩)

def specBarsT (s : S) : List MBar → List TEv × S
  | [] => ([], s)
  | b :: bs => ((specBarT s b).1 ++ (specBarsT (specBarT s b).2 bs).1, (specBarsT (specBarT s b).2 bs).2)

theorem specBarsT_eq : specBarsT = thread specBarT := by
  funext s bs; induction bs generalizing s <;> simp [specBarsT, *]

def okTrackT (tr : MTrack) : Prop :=
  (∀ b ∈ tr.bars, okBarT b) ∧ (∀ nr, tr.instr = some nr → 0 ≤ nr ∧ nr ≤ 127)

def specTrackT (s : S) (tr : MTrack) : List TEv × S :=
  (⟨0, .metaE 3 (MT.asciiBytes tr.name)⟩ :: (specBarsT (withInstr s tr) tr.bars).1, (specBarsT (withInstr s tr) tr.bars).2)

theorem track_refinesT (tr : MTrack) (ht : okTrackT tr) : Refines okInstr (·.playTrack tr) (specTrackT · tr) :=
  track_refines_of (sbs := (specBarsT · tr.bars)) tr ht.2
    (specBarsT_eq ▸ Refines.foldlM fun b hb => bar_refinesT b (ht.1 b hb))

theorem writeTrack_specT (tr : MTrack) (bpm rep : Int) (ht : okTrackT tr) (hb : okBpm bpm) :
    ∃ t, writeTrack tr bpm rep = .ok (fileBytes [t]) ∧
      t.evs = tempoEv bpm :: (specPasses (fun s => specTrackT s tr) (times rep) s0).1 :=
  writeTrack_of tr bpm rep (track_refinesT tr ht) hb

theorem writeBar_specT (b : MBar) (bpm rep : Int) (hbar : okBarT b) (hb : okBpm bpm) :
    ∃ t, writeBar b bpm rep = .ok (fileBytes [t]) ∧
      t.evs = tempoEv bpm :: (specPasses (fun s => specBarT s b) (times rep) s0).1 :=
  writeBar_of b bpm rep (bar_refinesT b hbar) hb

theorem writeComposition_specT (trs : List MTrack) (bpm rep : Int) (ht : ∀ tr ∈ trs, okTrackT tr) (hb : okBpm bpm) :
    ∃ ts, writeComposition trs bpm rep = .ok (fileBytes ts) ∧
      ts.map (·.evs) = trs.map (fun tr => tempoEv bpm :: (specPasses (fun s => specTrackT s tr) (times rep) s0).1) :=
  writeComposition_of trs bpm rep (fun tr h => track_refinesT tr (ht tr h)) hb

private def tb : MBar := ⟨"C".toList, 4, 4, [⟨4, [⟨"C".toList, 4, 1, 64⟩], none⟩, ⟨4, [], none⟩, ⟨2, [⟨"E".toList, 4, 3, 90⟩], some 60⟩]⟩
example : ((do let t ← MT.init 120; repeatM (fun t => t.playBar tb) 2 t) : Except Err MT).toOption.map (·.evs) =
    some (tempoEv 120 :: (specPasses (fun s => specBarT s tb) 2 s0).1) ∧
    (specBarT s0 tb).1.map (·.delta) = [0, 0, 0, 72, 72, 0, 144] := by
  decide +kernel

end Mingus.Props.C16
