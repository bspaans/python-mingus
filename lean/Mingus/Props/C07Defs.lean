import Mingus.Model.Chords
/- Decidable statements of C07: what `recognise_all` and `triads_sound` say of one input. -/
namespace Mingus.Props.C07
open Mingus Mingus.Chords Mingus.Keys

/-- inversion `k` of a chord: its notes rotated to the left `k` times -/
def rotL (c : List Str) (k : Nat) : List Str := c.drop (k % c.length) ++ c.take (k % c.length)

/-- split a chord name into root (letter + accidentals) and shorthand -/
def splitRoot (nm : Str) : Str × Str :=
  match nm with
  | [] => ([], [])
  | l :: t => let a := t.takeWhile (fun ch => ch == '#' || ch == 'b'); (l :: a, t.drop a.length)

/-- the chord `root ++ key`, given in inversion `i`, is recognised: some shorthand-form answer rebuilds exactly the
    root-position chord, and the long-form answer at the same position is root + meaning + ordinal of `i` -/
def recogOK (root key : Str) (i : Nat) : Bool :=
  match Chords.fromShorthand (root ++ key) with
  | .ok ch =>
    if ch.length < 3 || i ≥ ch.length then true else
    match determine (rotL ch i) true false false, determine (rotL ch i) false false false with
    | .ok S, .ok L =>
      S.length == L.length &&
      (List.range S.length).any fun idx =>
        let nm := S.getD idx []
        !nm.contains '|' && Chords.fromShorthand nm == .ok ch &&
        (match chordMeaning.lookup (splitRoot nm).2, intDesc.lookup (i + 1) with
         | some m, some d => L.getD idx [] == (splitRoot nm).1 ++ m ++ d
         | _, _ => false)
    | _, _ => false
  | _ => false

/-- the 21 roots with at most one accidental -/
def roots21 : List Str := baseScale.flatMap fun l => [[l], [l, '#'], [l, 'b']]

/-- every rotation of the chord on every one of the 21 roots -/
def keyOK (key : Str) : Bool :=
  roots21.all fun r => (List.range 7).all fun i => recogOK r key i

/-- three-note input: both forms succeed with equal length and every returned name denotes a chord containing
    all three notes -/
def tripleOK (a b c : Str) : Bool :=
  match determine [a, b, c] true false false, determine [a, b, c] false false false with
  | .ok S, .ok L => S.length == L.length && S.all fun nm =>
      match Chords.fromShorthand nm with
      | .ok ch => ch.contains a && ch.contains b && ch.contains c
      | _ => false
  | _, _ => false

def letterOK (l : Char) : Bool :=
  [[l], [l, '#'], [l, 'b']].all fun a => roots21.all fun b => roots21.all fun c => tripleOK a b c

end Mingus.Props.C07
