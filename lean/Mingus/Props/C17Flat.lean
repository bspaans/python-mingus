import Mingus.Props.C17
import Mingus.Lemmas.Containers
import Mathlib.Data.List.Basic
/-
  C17 — the second stage of the reader (`MIDI_to_Composition`): delta times → bar entries.

  `view st` is what the statement calls the flattened sequence: the entries closed so far, bar after bar, as
  (value, notes), and the notes of the entry that is still open.  Whatever the float bar accounting decides about where
  bars end, every non-zero delta closes the open entry with that delta's length and every note-on joins the open entry
  (`run_view`).  The only way time can be lost is a placement refused on an *empty* bar; `FitsRun` says that this does not
  happen along the run (a delta longer than a whole bar, which the writer never produces for music that fits its bars).
-/
namespace Mingus.Props.C17
open Mingus Mingus.MidiIn Mingus.Containers Mingus.Midi

abbrev CEntry := Containers.Entry

def ev (e : CEntry) : Rat × NC := (e.value, e.content.getD [])

def allEntries (st : RState) : List CEntry := st.t.bars.flatMap (·.entries) ++ st.b.entries

def view (st : RState) : List (Rat × NC) × NC :=
  match st.b.entries.getLast? with
  | none => ((allEntries st).map ev, [])
  | some last => ((allEntries st).dropLast.map ev, last.content.getD [])

/-- the reader never places `None` -/
def Inv (st : RState) : Prop := ∀ e ∈ st.b.entries, e.content.isSome = true

theorem view_nil {st : RState} (h : st.b.entries = []) : view st = ((st.t.bars.flatMap (·.entries)).map ev, []) := by
  simp [view, allEntries, h]

theorem view_concat {st : RState} {pre : List CEntry} {last : CEntry} (h : st.b.entries = pre ++ [last]) :
    view st = ((st.t.bars.flatMap (·.entries) ++ pre).map ev, last.content.getD []) := by
  simp [view, allEntries, h, ← List.append_assoc]

theorem view_congr {st st' : RState} (hb : st'.b.entries = st.b.entries) (ht : st'.t.bars = st.t.bars) :
    view st' = view st := by
  unfold view allEntries
  rw [hb, ht]

theorem inv_concat {st : RState} {pre : List CEntry} {x : CEntry} (h : st.b.entries = pre ++ [x])
    (hpre : ∀ e ∈ pre, e.content.isSome = true) (hx : x.content.isSome = true) : Inv st := by
  intro e he
  rw [h] at he
  rcases List.mem_append.1 he with he | he
  · exact hpre e he
  · rw [List.mem_singleton.1 he]; exact hx

/-- `h`: a refused bar is closed and a new one opened, so only a refusal on an *empty* bar drops the delta -/
theorem view_opened (st : RState) (b : Bar) (dur : Rat) (hb : ∀ e ∈ b.entries, e.content.isSome = true)
    (h : b.entries = [] ∨ (b.place emptyNC dur).1 = true) :
    Inv { st with b := (b.place emptyNC dur).2 } ∧
      view { st with b := (b.place emptyNC dur).2 } = ((st.t.bars.flatMap (·.entries) ++ b.entries).map ev, []) := by
  by_cases hok : (b.place emptyNC dur).1 = true
  · have hent : (b.place emptyNC dur).2.entries = b.entries ++ [⟨b.current, dur, emptyNC⟩] := by
      rw [Bar.place_entries, if_pos hok]
    exact ⟨inv_concat hent hb rfl, by rw [view_concat hent]; rfl⟩
  · have hnil := h.resolve_right hok
    have hent : (b.place emptyNC dur).2.entries = [] := by rw [Bar.place_entries, if_neg hok, hnil]; rfl
    exact ⟨fun e he => by simp [hent] at he, by rw [view_nil hent, hnil, List.append_nil]⟩

theorem closeOpen_spec (st : RState) (dur : Rat) (hinv : Inv st)
    (hfit : st.b.entries = [] → (st.b.place emptyNC dur).1 = true) :
    ∃ pre last, (closeOpen st.b dur).entries = pre ++ [last] ∧ (∀ e ∈ pre ++ [last], e.content.isSome = true) ∧
      ((st.t.bars.flatMap (·.entries) ++ pre).map ev, last.content.getD []) = view st ∧ last.value = dur := by
  unfold closeOpen
  rcases List.eq_nil_or_concat' st.b.entries with hnil | ⟨pre, last, hsn⟩
  · refine ⟨[], ⟨st.b.current, dur, emptyNC⟩, ?_, by simp [emptyNC], by rw [view_nil hnil]; simp [emptyNC], rfl⟩
    simp [hnil, Bar.place_entries, hfit hnil]
  · refine ⟨pre, { last with value := dur }, ?_, ?_, by rw [view_concat hsn], rfl⟩
    · simp only [hsn, List.getLast?_concat, List.dropLast_concat]
      split <;> rfl
    · simpa [Inv, hsn, or_imp, forall_and] using hinv

theorem onDelta_view (st st' : RState) (dur : Rat) (hinv : Inv st) (h : onDelta st dur = .ok st')
    (hfit : st.b.entries = [] → (st.b.place emptyNC dur).1 = true) :
    Inv st' ∧ view st' = ((view st).1 ++ [(dur, (view st).2)], []) := by
  obtain ⟨pre, last, hes, hsome, hview, hval⟩ := closeOpen_spec st dur hinv hfit
  have hlast : (st.t.bars.flatMap (·.entries) ++ (pre ++ [last])).map ev = (view st).1 ++ [(dur, (view st).2)] := by
    simp [← hview, ev, hval]
  rw [← hlast, ← hes]
  simp only [onDelta] at h
  split at h
  · next hok =>
    cases h
    exact view_opened st _ dur (hes ▸ hsome) (.inr hok)
  · obtain ⟨nb, hnb, h⟩ := bind_eq_ok.1 h
    cases h
    simpa [Bar.new_entries hnb] using
      view_opened { st with t := { st.t with bars := st.t.bars ++ [closeOpen st.b dur] } } nb dur
        (by simp [Bar.new_entries hnb]) (.inl (Bar.new_entries hnb))

theorem addOn_view (st st' : RState) (n : Note) (hinv : Inv st) (h : addOn st n = .ok st')
    (hfit : st.b.entries = [] → (st.b.plus (some [n])).1 = true) :
    Inv st' ∧ view st' = ((view st).1, NC.addNoteObj (view st).2 n) := by
  unfold addOn at h
  rcases List.eq_nil_or_concat' st.b.entries with hnil | ⟨pre, last, hsn⟩
  · simp only [hnil, List.getLast?_nil, pure_ok, Except.ok.injEq] at h
    subst h
    have hent : (st.b.plus (some [n])).2.entries =
        [] ++ [⟨st.b.current, if st.b.meter.2 ≠ 0 then st.b.meter.2 else 4, some [n]⟩] := by
      have := hfit hnil
      unfold Bar.plus at this ⊢
      rw [Bar.place_entries, if_pos this, hnil]
    exact ⟨inv_concat hent (by simp) rfl, by rw [view_concat hent, view_nil hnil]; simp [NC.addNoteObj_nil]⟩
  · obtain ⟨nc, hc⟩ := Option.isSome_iff_exists.1 (hinv last (by simp [hsn]))
    simp only [hsn, List.getLast?_concat, hc, List.dropLast_concat, pure_ok, Except.ok.injEq] at h
    subst h
    exact ⟨inv_concat rfl (fun e he => hinv e (by simp [hsn, he])) rfl,
      by rw [view_concat rfl, view_concat hsn, hc]; rfl⟩

def isOn : PEv → Bool
  | .chan 9 _ _ (some _) => true
  | _ => false

theorem onEvent_other (st st' : RState) (e : PEv) (hne : isOn e = false) (h : onEvent st e = .ok st') :
    st'.b.entries = st.b.entries ∧ st'.t.bars = st.t.bars := by
  unfold onEvent at h
  split at h
  · simp [isOn] at hne
  -- every other arm of `onEvent` fails or updates other fields; the meter goes through `Bar.setMeter`
  all_goals simp only [bind, Except.bind, pure, Except.pure] at h
  all_goals repeat' split at h
  all_goals cases h
  all_goals first | exact ⟨rfl, rfl⟩ | exact ⟨Bar.setMeter_entries ‹_›, rfl⟩

/-- the reader's `float(deltatime) / (ticks_per_beat * 4.0)`; `durOf` is the value it stores -/
def gap (tpb d : Nat) : Rat := F64.div d (F64.mul tpb 4)
def durOf (tpb d : Nat) : Rat := F64.div 1 (gap tpb d)

def absNote (cur : NC) : PEv → NC
  | .chan 9 ch p1 (some p2) => (match noteOf ch p1 p2 with | .ok n => NC.addNoteObj cur n | .error _ => cur)
  | _ => cur

def absStep (tpb : Nat) (acc : List (Rat × NC) × NC) (de : Nat × PEv) : List (Rat × NC) × NC :=
  let acc1 := if gap tpb de.1 ≠ 0 then (acc.1 ++ [(durOf tpb de.1, acc.2)], []) else acc
  (acc1.1, absNote acc1.2 de.2)

def FitsRun (tpb : Nat) : RState → List (Nat × PEv) → Prop
  | _, [] => True
  | st, de :: rest =>
    (gap tpb de.1 ≠ 0 → st.b.entries = [] → (st.b.place emptyNC (durOf tpb de.1)).1 = true) ∧
    ∀ st1, (if gap tpb de.1 ≠ 0 then onDelta st (durOf tpb de.1) else pure st) = Except.ok st1 →
      (∀ ch p1 p2 n, de.2 = .chan 9 ch p1 (some p2) → noteOf ch p1 p2 = .ok n → st1.b.entries = [] →
        (st1.b.plus (some [n])).1 = true) ∧
      ∀ st', onEvent st1 de.2 = .ok st' → FitsRun tpb st' rest

theorem absNote_other (cur : NC) (e : PEv) (h : isOn e = false) : absNote cur e = cur := by
  unfold absNote
  split
  · simp [isOn] at h
  · rfl

theorem onEvent_view (st st' : RState) (e : PEv) (hinv : Inv st) (h : onEvent st e = .ok st')
    (hfit : ∀ ch p1 p2 n, e = .chan 9 ch p1 (some p2) → noteOf ch p1 p2 = .ok n → st.b.entries = [] →
      (st.b.plus (some [n])).1 = true) :
    Inv st' ∧ view st' = ((view st).1, absNote (view st).2 e) := by
  by_cases hon : isOn e = true
  · unfold isOn at hon
    split at hon
    · next ch p1 p2 =>
      obtain ⟨n, hn, h⟩ := bind_eq_ok.1 h
      obtain ⟨i1, i2⟩ := addOn_view st st' n hinv h (hfit ch p1 p2 n rfl hn)
      exact ⟨i1, by rw [i2]; simp [absNote, hn]⟩
    · cases hon
  · have hne : isOn e = false := by simpa using hon
    obtain ⟨hb, ht⟩ := onEvent_other st st' e hne h
    exact ⟨fun e he => hinv e (hb ▸ he), by rw [view_congr hb ht, absNote_other _ _ hne]⟩

theorem step_ok {tpb : Nat} {st st' : RState} {de : Nat × PEv} (h : step tpb st de = .ok st') :
    ∃ st1, (if gap tpb de.1 ≠ 0 then onDelta st (durOf tpb de.1) else pure st) = Except.ok st1 ∧
      onEvent st1 de.2 = .ok st' := by
  unfold step at h
  split at h
  · cases h
  · -- the `do` block of `step` elaborates with a join point: the `if` stands outside the bind
    by_cases hg : gap tpb de.1 ≠ 0
    · rw [if_pos hg]; exact bind_eq_ok.1 ((if_pos hg).symm.trans h)
    · rw [if_neg hg]; exact bind_eq_ok.1 ((if_neg hg).symm.trans h)

theorem step_view (tpb : Nat) (st st' : RState) (de : Nat × PEv) (rest : List (Nat × PEv)) (hinv : Inv st)
    (h : step tpb st de = .ok st') (hf : FitsRun tpb st (de :: rest)) :
    (Inv st' ∧ view st' = absStep tpb (view st) de) ∧ FitsRun tpb st' rest := by
  obtain ⟨st1, h1, h2⟩ := step_ok h
  obtain ⟨f1, f2⟩ := hf
  obtain ⟨f2, f3⟩ := f2 st1 h1
  refine ⟨?_, f3 st' h2⟩
  unfold absStep
  by_cases hg : gap tpb de.1 ≠ 0
  · rw [if_pos hg] at h1 ⊢
    obtain ⟨i1, v1⟩ := onDelta_view st st1 _ hinv h1 (f1 hg)
    rw [← v1]
    exact onEvent_view st1 st' de.2 i1 h2 f2
  · rw [if_neg hg] at h1 ⊢
    cases h1
    exact onEvent_view st st' de.2 hinv h2 f2

/-- **the second stage, for every event list**: as long as no placement on an empty bar is refused, the entries the
    reader has closed are exactly one per non-zero delta, carrying that delta's length and the notes that started since
    the previous non-zero delta — wherever the float bar accounting decides to start new bars -/
theorem run_view (tpb : Nat) (evs : List (Nat × PEv)) : ∀ (st st' : RState), Inv st →
    evs.foldlM (step tpb) st = .ok st' → FitsRun tpb st evs →
    Inv st' ∧ view st' = evs.foldl (absStep tpb) (view st) := by
  induction evs with
  | nil => intro st st' hinv h _; cases h; exact ⟨hinv, rfl⟩
  | cons de rest ih =>
    intro st st' hinv h hf
    obtain ⟨s1, h1, h2⟩ := bind_eq_ok.1 ((List.foldlM_cons ..).symm.trans h)
    obtain ⟨⟨i1, v1⟩, hrest⟩ := step_view tpb st s1 de rest hinv h1 hf
    rw [List.foldl_cons, ← v1]
    exact ih s1 st' i1 h2 hrest

/-- the composition that comes back: its flattened entries are the closed entries followed by at most one trailing
    entry (the one still open when the track ends — "trailing rests created by the final note-off are ignored") -/
theorem readTrack_flat (tpb : Nat) (bpm : Int) (evs : List (Nat × PEv)) (rt : RTrack) (bpm' : Int)
    (h : readTrack tpb bpm evs = .ok (rt, bpm')) (hf : FitsRun tpb { bpm := bpm } evs) :
    ∃ tail, tail.length ≤ 1 ∧
      (rt.bars.flatMap (·.entries)).map ev = (evs.foldl (absStep tpb) ([], [])).1 ++ tail := by
  obtain ⟨st, hst, h⟩ := bind_eq_ok.1 h
  cases h
  obtain ⟨_, v⟩ := run_view tpb evs _ st (fun e he => by simp at he) hst hf
  rw [show view ({ bpm := bpm } : RState) = ([], []) from rfl] at v
  rw [← v]
  rcases List.eq_nil_or_concat' st.b.entries with hnil | ⟨pre, last, hsn⟩
  · exact ⟨[], by simp, by simp [view_nil hnil, hnil]⟩
  · exact ⟨[ev last], by simp, by simp [view_concat hsn, hsn]⟩

end Mingus.Props.C17
