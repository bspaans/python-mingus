import Mingus.Props.C16Smf
import Mingus.Lemmas.Thread
import Mingus.Lemmas.Except
/-
  C16 — the pending-delta machine refines a pure specification: the events a track writes, with their delta times,
  as a function of the music alone.  The machine's `pending` field never appears in the specification: whatever it holds
  between operations, every event is emitted with the delta the specification says.
-/
namespace Mingus.Props.C16
open Mingus Mingus.Midi Mingus.Containers

def okNote (n : Note) : Prop :=
  0 ≤ n.channel ∧ n.channel < 16 ∧ 0 ≤ n.velocity ∧ n.velocity ≤ 127 ∧
  n.toInt = .ok n.pitch ∧ 0 ≤ n.pitch + 12 ∧ n.pitch + 12 ≤ 127

def onEv (n : Note) : Ev := .chan2 9 n.channel.toNat (n.pitch + 12).toNat n.velocity.toNat
def offEv (n : Note) : Ev := .chan2 8 n.channel.toNat (n.pitch + 12).toNat n.velocity.toNat
def bankEv (n : Note) : Ev := .chan2 11 n.channel.toNat 0 1
def progEv (n : Note) (instr : Int) : Ev := .chan1 12 n.channel.toNat instr.toNat

/-- what the specification remembers between entries: accumulated rest ticks, and a pending instrument change -/
structure S where
  delay : Nat
  ci : Bool
  instr : Int
  deriving DecidableEq, Repr

def Rel (t : MT) (evs : List TEv) (s : S) : Prop :=
  t.evs = evs ∧ t.delay = s.delay ∧ t.changeInstr = s.ci ∧ t.instr = s.instr

def specEntry (s : S) (e : MEntry) : List TEv × S :=
  match e.notes with
  | [] => ([], { s with delay := s.delay + tickOf e.value })
  | n :: rest =>
    ((if s.ci then [⟨s.delay, bankEv n⟩, ⟨0, progEv n s.instr⟩] else []) ++
      ⟨if s.ci then 0 else s.delay, onEv n⟩ :: rest.map (fun m => ⟨0, onEv m⟩) ++
      ⟨tickOf e.value, offEv n⟩ :: rest.map (fun m => ⟨0, offEv m⟩),
     ⟨0, false, s.instr⟩)

def okInstr (s : S) : Prop := s.ci = true → 0 ≤ s.instr ∧ s.instr ≤ 127
/-- entries with a tempo change: `entry_tempo_refines` -/
def okEntry (e : MEntry) : Prop := e.value ≠ 0 ∧ (∀ n ∈ e.notes, okNote n) ∧ e.bpm = none

theorem chan2_ok (t : MT) (k : Nat) (ch p1 p2 : Int) (h : 0 ≤ ch ∧ ch < 16 ∧ 0 ≤ p1 ∧ p1 ≤ 127 ∧ 0 ≤ p2 ∧ p2 ≤ 127) :
    t.chan2 k ch p1 p2 = .ok (t.emit (.chan2 k ch.toNat p1.toNat p2.toNat)) := by
  obtain ⟨a, b, c, d, e, f⟩ := h
  simp [MT.chan2, MT.in7, a, b, c, d, e, f]

theorem stopNote_ok (t : MT) (n : Note) (h : okNote n) : t.stopNote n = .ok (t.emit (offEv n)) := by
  obtain ⟨a, b, c, d, e, f, g⟩ := h
  simp only [MT.stopNote, e, ok_bind]
  rw [chan2_ok t 8 _ _ _ ⟨a, b, f, g, c, d⟩]; rfl

theorem playNote_ok (t : MT) (n : Note) (hc : t.changeInstr = false) (h : okNote n) :
    t.playNote n = .ok (t.emit (onEv n)) := by
  obtain ⟨a, b, c, d, e, f, g⟩ := h
  have hv : ¬ ¬ (0 ≤ n.velocity ∧ n.velocity ≤ 127) := by simp [c, d]
  simp only [MT.playNote, hc, Bool.false_eq_true, if_false, ok_bind, pure_ok, e]
  rw [if_neg hv, chan2_ok t 9 _ _ _ ⟨a, b, f, g, c, d⟩]; rfl

def selected (t : MT) (n : Note) : MT :=
  { t with evs := t.evs ++ [⟨t.pending, bankEv n⟩, ⟨0, progEv n t.instr⟩], pending := 0, changeInstr := false }

theorem playNote_instr (t : MT) (n : Note) (hc : t.changeInstr = true) (h : okNote n)
    (hi : 0 ≤ t.instr ∧ t.instr ≤ 127) : t.playNote n = (selected t n).playNote n := by
  obtain ⟨a, b, _⟩ := h
  simp only [MT.playNote, hc, if_true, ok_bind, pure_ok, MT.setInstrument]
  rw [chan2_ok t 11 n.channel 0 1 ⟨a, b, by omega, by omega, by omega, by omega⟩]
  simp [selected, MT.chan1, MT.in7, MT.setDelta, MT.emit, bankEv, progEv, a, b, hi]

/-- `playNC` and `stopNC` are one program over `playNote` and `stopNote`: with no instrument change pending, the first
    note's event takes the pending delta and the others follow with delta 0.  The delta left pending depends on the number
    of notes; nothing reads it, since every later event is preceded by a `setDelta`. -/
theorem nc_ok {nc : MT → List Note → Except Err MT} {step : MT → Note → Except Err MT} {ev : Note → Ev}
    (h1 : ∀ t n, nc t [n] = step t n)
    (h2 : ∀ t n m ms, nc t (n :: m :: ms) = step t n >>= fun t => (m :: ms).foldlM step (t.setDelta 0))
    (hs : ∀ (t : MT) n, t.changeInstr = false → okNote n → step t n = .ok (t.emit (ev n)))
    (t : MT) (n : Note) (rest : List Note) (hc : t.changeInstr = false) (h : ∀ m ∈ n :: rest, okNote m) :
    nc t (n :: rest) = .ok { t with
      evs := t.evs ++ ⟨t.pending, ev n⟩ :: rest.map fun m => ⟨0, ev m⟩, pending := if rest = [] then t.pending else 0 } := by
  have fold (ns : List Note) : ∀ t : MT, t.changeInstr = false → (∀ n ∈ ns, okNote n) →
      ns.foldlM step t = .ok { t with evs := t.evs ++ ns.map fun m => ⟨t.pending, ev m⟩ } := by
    induction ns with
    | nil => intro t _ _; simp
    | cons n ns ih =>
      intro t hc h
      obtain ⟨hn, ht⟩ := List.forall_mem_cons.1 h
      rw [List.foldlM_cons, hs t n hc hn, ok_bind, ih (t.emit (ev n)) hc ht]
      simp [MT.emit]
  obtain ⟨hn, ht⟩ := List.forall_mem_cons.1 h
  cases rest with
  | nil => simp [h1, hs t n hc hn, MT.emit]
  | cons m ms =>
    rw [h2, hs t n hc hn, ok_bind, fold _ _ (by exact hc) ht]
    simp [MT.emit, MT.setDelta]

theorem stopNC_ok (t : MT) (n : Note) (rest : List Note) (hc : t.changeInstr = false) (h : ∀ m ∈ n :: rest, okNote m) :
    t.stopNC (n :: rest) = .ok { t with
      evs := t.evs ++ ⟨t.pending, offEv n⟩ :: rest.map fun m => ⟨0, offEv m⟩,
      pending := if rest = [] then t.pending else 0 } :=
  nc_ok (fun _ _ => rfl) (fun _ _ _ _ => rfl) (fun t n _ => stopNote_ok t n) t n rest hc h

/-- only the first note of a container meets a pending instrument change, which is written before it and takes the
    pending delta -/
theorem playNC_ok (t : MT) (n : Note) (rest : List Note) (hi : t.changeInstr = true → 0 ≤ t.instr ∧ t.instr ≤ 127)
    (h : ∀ m ∈ n :: rest, okNote m) :
    t.playNC (n :: rest) = .ok { t with
      evs := t.evs ++ (if t.changeInstr then [⟨t.pending, bankEv n⟩, ⟨0, progEv n t.instr⟩] else []) ++
        ⟨if t.changeInstr then 0 else t.pending, onEv n⟩ :: rest.map fun m => ⟨0, onEv m⟩,
      pending := if t.changeInstr = false ∧ rest = [] then t.pending else 0, changeInstr := false } := by
  have key := @nc_ok MT.playNC MT.playNote onEv (fun _ _ => rfl) (fun _ _ _ _ => rfl) playNote_ok
  cases hc : t.changeInstr with
  | false => rw [key t n rest hc h]; simp [hc]
  | true =>
    have : t.playNC (n :: rest) = (selected t n).playNC (n :: rest) := by
      cases rest <;> simp only [MT.playNC, playNote_instr t n hc (h n (by simp)) (hi hc)]
    rw [this, key _ n rest rfl h]
    simp [selected]

def Refines (I : S → Prop) (play : MT → Except Err MT) (f : S → List TEv × S) : Prop :=
  ∀ t evs s, Rel t evs s → I s → ∃ t', play t = .ok t' ∧ Rel t' (evs ++ (f s).1) (f s).2 ∧ I (f s).2

theorem Refines.foldlM {α : Type} {I : S → Prop} {play : MT → α → Except Err MT} {f : S → α → List TEv × S}
    {xs : List α} (h : ∀ x ∈ xs, Refines I (play · x) (f · x)) : Refines I (xs.foldlM play) (thread f · xs) := by
  induction xs with
  | nil => intro t evs s hr hi; exact ⟨t, rfl, by simpa using hr, hi⟩
  | cons x xs ih =>
    intro t evs s hr hi
    obtain ⟨hx, ht⟩ := List.forall_mem_cons.1 h
    obtain ⟨t1, h1, r1, i1⟩ := hx t evs s hr hi
    obtain ⟨t2, h2, r2, i2⟩ := ih ht t1 _ _ r1 i1
    exact ⟨t2, by simp only [List.foldlM_cons, h1]; exact h2, by simpa using r2, i2⟩

theorem okInstr_specEntry (s : S) (e : MEntry) (h : okInstr s) : okInstr (specEntry s e).2 := by
  unfold specEntry
  cases e.notes with
  | nil => exact h
  | cons n rest => intro hc; simp at hc

theorem entry_refines (e : MEntry) (he : okEntry e) : Refines okInstr (·.playEntry e) (specEntry · e) := by
  intro t evs s ⟨r1, r2, r3, r4⟩ hi
  obtain ⟨hv, hn, hb⟩ := he
  simp only [MT.playEntry, specEntry, if_neg hv, hb]
  cases hnotes : e.notes with
  | nil => exact ⟨_, by simp; rfl, by simp [Rel, r1, r2, r3, r4], hi⟩
  | cons n rest =>
    rw [hnotes] at hn
    simp only [reduceCtorEq, if_false, ok_bind, pure_ok]
    rw [playNC_ok _ n rest (by simpa [okInstr, r3, r4] using hi) hn, ok_bind, stopNC_ok _ n rest rfl hn]
    exact ⟨_, rfl, by simp [Rel, MT.setDelta, r1, r2, r3, r4], nofun⟩

end Mingus.Props.C16
