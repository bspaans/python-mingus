import Mingus.Props.C20Track
/-
  C20 — the page `from_Composition` draws, decoded.

  `from_Composition` writes the header and then rows of `bars = width div (bar width)` bars: in every row each track in turn
  renders its next `bars` bars with `from_Bar` ON ITS OWN TUNING and glues them into one block (for every track but the first the
  quarter-mark line is overlaid with `||` and two `||` lines come first); three empty lines end the row; the rows go on
  until the longest track is exhausted.

  `fromComposition_decode`: the page is the header followed by rows (`renderRows`); in row `j` every track that still has bars
  shows its bars `j·bars … (j+1)·bars − 1` as ONE system (`SysOK`) on its own tuning, a track that has run out shows nothing.
  Any number of tracks, bars, entries, any tuning that meets `TuningOK`.  `SysOK.glue` is the step shared with `from_Track`.
-/
namespace Mingus.Props.C20
open Mingus Mingus.Tun Mingus.Tab Mingus.Containers

/-- the row loop of `from_Composition` looks bars up by index; that is a walk over the slice of the track it shows -/
theorem range_fold_lookup {α : Type} (l : List TBar) (k : Nat) (f : α → TBar → Except Err α) (n : Nat) (init : α) :
    (List.range n).foldlM (fun a x => (l[k + x]?).elim (pure a) (f a)) init
      = ((l.drop k).take n).foldlM f init := by
  induction n generalizing init with
  | zero => simp
  | succ n ih =>
    rw [List.range_succ, List.foldlM_append, ih, List.take_add_one, List.foldlM_append]
    congr 1
    funext a
    rw [List.getElem?_drop]
    cases h : l[k + n]? <;> simp [h]

def RowInv (t : Tuning) (start : List Line) (ascii : List Line) (done : List TBar) : Prop :=
  (done = [] ∧ ascii = []) ∨ (done ≠ [] ∧ ∃ q L, ascii = q :: L ∧ SysOK t start done L)

theorem compBar_inv (t : Tuning) (ht : TuningOK t) (w : Int) (notfirst : Bool) (ascii : List Line) (done : List TBar) (b : TBar)
    (ascii' : List Line) (hinv : RowInv t (labelCols t w) ascii done) (h : compBar t w notfirst ascii b = .ok ascii') :
    RowInv t (labelCols t w) ascii' (done ++ [b]) := by
  simp only [compBar, bind_eq_ok, pure_eq_ok] at h
  obtain ⟨ls, hls, rfl⟩ := h
  obtain ⟨top, L, start, gs, close, rfl, ⟨qs, _, hq, rfl, hs⟩, hL, hdec, hclose⟩ := fromBar_system t b w ls hls
  rw [labelCols_eq t w qs start hq hs] at hinv ⊢
  have hnew := SysOK.single t start b L gs close hL hdec hclose
  -- the bar as it is glued: any quarter-mark line over the same string lines
  generalize hr' : ite (notfirst = true) _ _ = r'
  obtain ⟨top', rfl⟩ : ∃ top', r' = top' :: L := by subst hr'; cases notfirst <;> exact ⟨_, rfl⟩
  refine Or.inr ⟨by simp, ?_⟩
  rcases hinv with ⟨rfl, rfl⟩ | ⟨_, q, L0, rfl, hsys⟩
  · exact ⟨top', L, by simp, hnew⟩
  · obtain ⟨q', L', hg, hsys'⟩ := SysOK.glue t start (beginTrack_glueCols t ht _ start hs) done b L0 L hsys hnew [] q top top'
    exact ⟨q', L', by rw [if_pos (by simp)]; exact hg, hsys'⟩

theorem compTrackRow_spec (t : Tuning) (ht : TuningOK t) (w : Int) (bars k : Nat) (trbars : List TBar) (nf : Bool)
    (ascii : List Line) (h : compTrackRow t w bars k trbars nf = .ok ascii) :
    RowInv t (labelCols t w) ascii ((trbars.drop k).take bars) := by
  unfold compTrackRow at h
  rw [range_fold_lookup] at h
  exact foldlM_inv _ (RowInv t (labelCols t w)) _ [] ascii h (Or.inl ⟨rfl, rfl⟩)
    fun a b _ a' done hinv h => compBar_inv t ht w nf a done b a' hinv h

abbrev CTrack := Option (Str × Str × Tuning) × List TBar

def PartOK (bars k : Nat) (tr : CTrack) (part : List Line) : Prop :=
  ((tr.2.drop k).take bars = [] ∧ part = []) ∨
  ((tr.2.drop k).take bars ≠ [] ∧ ∃ sep start q L, part = sep ++ q :: L ∧
     SysOK (tuningOf tr.1) start ((tr.2.drop k).take bars) L ∧
     (sep = [] ∨ ∃ p : Int, sep = [rep ' ' p ++ lit "||", rep ' ' p ++ lit "||"]))

theorem compRow_spec (tracks : List CTrack) (hok : ∀ tr ∈ tracks, TuningOK (tuningOf tr.1)) (w : Int) (bars k : Nat)
    (result : List Line) (res : List Line × Bool) (h : compRow tracks w bars k result = .ok res) :
    ∃ parts, res.1 = result ++ parts.flatten ∧ List.Forall₂ (PartOK bars k) tracks parts := by
  refine foldlM_inv _ (fun (acc : List Line × Bool) done =>
    ∃ parts, acc.1 = result ++ parts.flatten ∧ List.Forall₂ (PartOK bars k) done parts) tracks (result, false) res h
    ⟨[], by simp, .nil⟩ ?_
  rintro acc tr htr acc' done ⟨parts, hp1, hp2⟩ hstep
  obtain ⟨ascii, hascii, hstep⟩ := bind_eq_ok.1 hstep
  have hspec := compTrackRow_spec (tuningOf tr.1) (hok tr htr) w bars k tr.2 acc.2 ascii hascii
  split at hstep
  · rename_i hc
    cases pure_eq_ok.1 hstep
    refine ⟨parts ++ [[rep ' ' (find2 (ascii.getLast?.getD [])) ++ lit "||", rep ' ' (find2 (ascii.getLast?.getD [])) ++ lit "||"]
      ++ ascii], by simp [hp1], List.rel_append hp2 (.cons ?_ .nil)⟩
    rcases hspec with ⟨_, e⟩ | ⟨hne, q, L, e, hsys⟩
    · exact absurd e hc.2
    · exact Or.inr ⟨hne, _, _, q, L, by rw [e], hsys, Or.inr ⟨_, rfl⟩⟩
  · cases pure_eq_ok.1 hstep
    refine ⟨parts ++ [ascii], by simp [hp1], List.rel_append hp2 (.cons ?_ .nil)⟩
    rcases hspec with h0 | ⟨hne, q, L, e, hsys⟩
    · exact Or.inl h0
    · exact Or.inr ⟨hne, [], _, q, L, e, hsys, Or.inl rfl⟩

def renderRows (rows : List (List (List Line))) : List Line := rows.flatMap fun parts => parts.flatten ++ [[], [], []]

/-- the last conjunct: the rows reach the end of the longest track -/
theorem compRows_spec (tracks : List CTrack) (hok : ∀ tr ∈ tracks, TuningOK (tuningOf tr.1)) (w : Int) (bars maxlen : Nat) :
    ∀ (fuel k : Nat) (result page : List Line), compRows tracks w bars maxlen fuel k result = .ok page →
      ∃ rows, page = result ++ renderRows rows ∧
        (∀ j (hj : j < rows.length), List.Forall₂ (PartOK bars (k + j * bars)) tracks rows[j]) ∧
        (maxlen < fuel + k → 0 < bars → maxlen ≤ k + rows.length * bars) := by
  intro fuel
  induction fuel with
  | zero =>
    intro k result page h
    cases pure_eq_ok.1 h
    exact ⟨[], by simp [renderRows], by simp, by simp; omega⟩
  | succ fuel ih =>
    intro k result page h
    rw [compRows] at h
    split at h
    · cases pure_eq_ok.1 h
      exact ⟨[], by simp [renderRows], by simp, by simp; omega⟩
    · obtain ⟨r, hr, h⟩ := bind_eq_ok.1 h
      obtain ⟨parts, hp1, hp2⟩ := compRow_spec tracks hok w bars k result r hr
      obtain ⟨rows, h1, h2, h3⟩ := ih (k + bars) (r.1 ++ [[], [], []]) page h
      refine ⟨parts :: rows, by simp [h1, hp1, renderRows, List.append_assoc], fun j hj => ?_, fun g1 g2 => ?_⟩
      · cases j with
        | zero => simpa using hp2
        | succ j =>
          have := h2 j (by simpa using hj)
          rwa [show k + bars + j * bars = k + (j + 1) * bars by rw [Nat.add_mul]; omega] at this
      · have := h3 (by omega) g2
        rw [List.length_cons, Nat.add_mul]; omega

theorem chunks_cover {α : Type} (bars : Nat) : ∀ (n : Nat) (l : List α), l.length ≤ n * bars →
    (List.range n).flatMap (fun j => (l.drop (j * bars)).take bars) = l := by
  intro n
  induction n with
  | zero => intro l h; simp at h; simp [h]
  | succ n ih =>
    intro l h
    rw [List.range_succ_eq_map, List.flatMap_cons, List.flatMap_map]
    have hl : (l.drop bars).length ≤ n * bars := by
      rw [List.length_drop, Nat.add_mul] at *; omega
    have := ih (l.drop bars) hl
    have e : (fun j => (l.drop ((j + 1) * bars)).take bars) = fun j => ((l.drop bars).drop (j * bars)).take bars := by
      funext j
      rw [List.drop_drop]
      congr 2
      rw [Nat.add_mul]; omega
    simp only [Nat.succ_eq_add_one, e, this, Nat.zero_mul, List.drop_zero]
    exact List.take_append_drop bars l

/-- **from_Composition decodes**; with `chunks_cover`: every bar of every track is shown exactly once, in order -/
theorem fromComposition_decode (ttl subtitle author email description : Str) (tracks : List CTrack) (width : Int)
    (hok : ∀ tr ∈ tracks, TuningOK (tuningOf tr.1)) (page : List Line)
    (h : fromComposition ttl subtitle author email description tracks width = .ok page) :
    ∃ (bars : Nat) (rows : List (List (List Line))), 0 < bars ∧
      page = addHeaders width ttl subtitle author email description
        (tracks.map fun t => match t.1 with | some x => (x.1, x.2.1) | none => (lit "Guitar", lit "Standard tuning"))
        ++ renderRows rows ∧
      (∀ j (hj : j < rows.length), List.Forall₂ (PartOK bars (j * bars)) tracks rows[j]) ∧
      (∀ tr ∈ tracks, tr.2.length ≤ rows.length * bars ∧
        (List.range rows.length).flatMap (fun j => (tr.2.drop (j * bars)).take bars) = tr.2) := by
  simp only [fromComposition, error_bind] at h
  split at h
  · cases h
  · split at h
    · cases h
    · split at h
      · cases h
      · rename_i hw ht hb
        obtain ⟨rows, h1, h2, h3⟩ := compRows_spec tracks hok _ _ _ _ _ _ _ h
        have hbars : 0 < (width / getWidth width).toNat := by omega
        refine ⟨(width / getWidth width).toNat, rows, hbars, h1, fun j hj => by simpa using h2 j hj, fun tr htr => ?_⟩
        have hlen : tr.2.length ≤ rows.length * (width / getWidth width).toNat :=
          Nat.le_trans ((foldl_max_ge (fun t : CTrack => t.2.length) tracks 0).2 tr htr) (by simpa using h3 (by omega) hbars)
        exact ⟨hlen, chunks_cover _ _ _ hlen⟩

/-- every registered tuning without courses meets `TuningOK` (the whole registry, from the two kernel-checked tables) -/
theorem registered_tuningOK (e : Tun.Entry) (he : e ∈ registered) (hs : singleStrings e.tuning = true) : TuningOK e.tuning := by
  have h1 := registered_labels_fit e he hs
  have h2 := registered_labels_nodigit e he hs
  cases hl : labels e.tuning with
  | error err => simp [hl] at h1
  | ok names =>
    simp only [hl, List.all_eq_true, decide_eq_true_eq, List.isEmpty_iff] at h1 h2
    exact ⟨names, hl, h1, h2⟩

private def nt3 (s : String) (o : Int) : Note := ⟨s.toList, o, 1, 64⟩
private def tbar2 : TBar := ⟨4, 4, [⟨4, some [nt3 "C" 3, nt3 "E" 3]⟩, ⟨4, none⟩, ⟨2, some [nt3 "A" 4]⟩]⟩
example : (fromComposition (lit "t") [] [] [] [] [(none, [tbar2, tbar2, tbar2]), (none, [tbar2])] 80).toOption.map
    (fun R => (R.length, (R.filter (fun l => l = [])).length)) = some (42, 13) := by decide +kernel

end Mingus.Props.C20
