import Mingus.Props.C17Flat
import Mingus.Lemmas.Float
import Mingus.Props.C01
/-
  C17 — the round trip: what the reader's second stage makes of the events the writer writes.

  `events_read`: feeding the specification's events of a track (C16: exactly what `write_Composition` writes and what
  the byte parsers give back) to the statement-level reading of the event stream (`absStep`, which `run_view` shows the
  reader implements) yields, per bar, a rest for the time carried over from the previous bar, and per sounding entry a
  rest for the rests before it followed by the entry with its length in ticks and its notes (each with its own channel
  and velocity, spelled with sharps).  `compress_read`: after joining adjacent rests and dropping trailing ones — the
  comparison the property prescribes — this is the written sequence.
-/
namespace Mingus.Props.C17
open Mingus Mingus.MidiIn Mingus.Containers Mingus.Midi Mingus.Props.C16

theorem gap_eq_zero_iff {tpb : Nat} (h : tpb ≠ 0) (d : Nat) : gap tpb d = 0 ↔ d = 0 := by
  simp [gap, F64.div, F64.mul, F64.round_eq_zero_iff, h]

theorem absStep_eq {tpb : Nat} (h : tpb ≠ 0) (acc : List (Rat × NC) × NC) (d : Nat) (e : PEv) :
    absStep tpb acc (d, e) =
      if d = 0 then (acc.1, absNote acc.2 e) else (acc.1 ++ [(durOf tpb d, acc.2)], absNote [] e) := by
  by_cases hd : d = 0 <;> simp [absStep, gap_eq_zero_iff h, hd]

theorem noteOf_eq (ch p1 p2 : Nat) :
    noteOf ch p1 p2 = .ok ⟨Notes.ns.getD (p1 % 12) [], ((p1 / 12 : Nat) : Int) - 1, ch, p2⟩ := by
  have := (Props.C01.intToNote_roundtrip (p1 % 12) (by simpa using Nat.mod_lt p1 (by norm_num))).1.1
  simp only [noteOf, this, ok_bind, pure_ok]

def readback (n : Note) : Note :=
  match noteOf n.channel.toNat (n.pitch + 12).toNat n.velocity.toNat with
  | .ok m => m
  | .error _ => n

def ncOf (notes : List Note) : NC := notes.foldl (fun acc n => NC.addNoteObj acc (readback n)) []

def toV (p : Nat × NC) : Rat × NC := (durOf 72 p.1, p.2)

-- a note-on with velocity 0 comes back from the parser as a note-off (`toPEv`)
def velOk (n : Note) : Prop := 1 ≤ n.velocity

theorem absNote_on (cur : NC) (n : Note) (hv : velOk n) :
    absNote cur (toPEv (onEv n)) = NC.addNoteObj cur (readback n) := by
  have : n.velocity.toNat ≠ 0 := by unfold velOk at hv; omega
  simp [onEv, toPEv, this, absNote, readback, noteOf_eq]

theorem isOn_off (n : Note) : isOn (toPEv (offEv n)) = false := by
  simp only [offEv, toPEv]; split <;> rfl
theorem isOn_bank (n : Note) : isOn (toPEv (bankEv n)) = false := by simp [bankEv, toPEv, isOn]
theorem isOn_prog (n : Note) (i : Int) : isOn (toPEv (progEv n i)) = false := by simp [progEv, toPEv, isOn]
theorem isOn_key (k : Str) : isOn (toPEv (keyEv k)) = false := by
  unfold keyEv keyEv?
  cases MT.idxOf? (if MT.isLower k then Keys.minorKeys else Keys.majorKeys) k <;> rfl

def restOf (d : Nat) : List (Nat × NC) := if d ≠ 0 then [(d, [])] else []

def Reads (evs : List TEv) (out : List (Nat × NC)) : Prop :=
  ∀ closed, (evs.map conv).foldl (absStep 72) (closed, []) = (closed ++ out.map toV, [])

theorem Reads.nil : Reads [] [] := fun _ => by simp

theorem Reads.append {xs ys : List TEv} {o p : List (Nat × NC)} (h1 : Reads xs o) (h2 : Reads ys p) :
    Reads (xs ++ ys) (o ++ p) := fun closed => by
  rw [List.map_append, List.foldl_append, h1, h2, List.map_append, List.append_assoc]

theorem absStep_conv (acc : List (Rat × NC) × NC) (d : Nat) (e : Ev) :
    absStep 72 acc (conv ⟨d, e⟩) =
      if d = 0 then (acc.1, absNote acc.2 (toPEv e)) else (acc.1 ++ [toV (d, acc.2)], absNote [] (toPEv e)) :=
  absStep_eq (by decide) ..

theorem Reads.other (d : Nat) (e : Ev) (h : isOn (toPEv e) = false) : Reads [⟨d, e⟩] (restOf d) := fun closed => by
  by_cases hd : d = 0 <;> simp [absStep_conv, absNote_other _ _ h, hd, restOf]

theorem foldl_ons (rest : List Note) (h : ∀ n ∈ rest, velOk n) : ∀ (acc : List (Rat × NC) × NC),
    ((rest.map fun m => (⟨0, onEv m⟩ : TEv)).map conv).foldl (absStep 72) acc =
      (acc.1, rest.foldl (fun a n => NC.addNoteObj a (readback n)) acc.2) := by
  induction rest with
  | nil => intro acc; rfl
  | cons n ns ih =>
    intro acc
    obtain ⟨hn, hns⟩ := List.forall_mem_cons.1 h
    simp only [List.map_cons, List.foldl_cons, absStep_conv, if_true, absNote_on _ n hn, ih hns]

theorem foldl_offs (rest : List Note) : ∀ (acc : List (Rat × NC) × NC),
    ((rest.map fun m => (⟨0, offEv m⟩ : TEv)).map conv).foldl (absStep 72) acc = acc := by
  induction rest with
  | nil => intro acc; rfl
  | cons n ns ih =>
    intro acc
    simp only [List.map_cons, List.foldl_cons, absStep_conv, if_true, absNote_other, isOn_off, ih]

def expectEntry (delay : Nat) (e : MEntry) : List (Nat × NC) × Nat :=
  if e.notes = [] then ([], delay + tickOf e.value)
  else (restOf delay ++ [(tickOf e.value, ncOf e.notes)], 0)

-- a sounding entry of zero ticks would never be closed: `absStep` closes the open entry on non-zero deltas only
def okRead (e : MEntry) : Prop := (∀ n ∈ e.notes, velOk n) ∧ (e.notes ≠ [] → tickOf e.value ≠ 0)

theorem entry_read (s : S) (e : MEntry) (h : okRead e) :
    Reads (specEntry s e).1 (expectEntry s.delay e).1 ∧ (specEntry s e).2.delay = (expectEntry s.delay e).2 := by
  unfold specEntry expectEntry
  cases hn : e.notes with
  | nil => exact ⟨Reads.nil, by simp⟩
  | cons n rest =>
    obtain ⟨hv, hvs⟩ := List.forall_mem_cons.1 (hn ▸ h.1)
    have ht : tickOf e.value ≠ 0 := h.2 (by simp [hn])
    refine ⟨fun closed => ?_, by simp⟩
    cases s.ci <;> by_cases hd : s.delay = 0 <;>
      simp [-List.map_map, absStep_conv, foldl_ons rest hvs, foldl_offs, absNote_on _ n hv, absNote_other, isOn_off, isOn_bank, isOn_prog, ht, hd, restOf, ncOf]

def expectEntries : Nat → List MEntry → List (Nat × NC) × Nat
  | delay, [] => ([], delay)
  | delay, e :: es => ((expectEntry delay e).1 ++ (expectEntries (expectEntry delay e).2 es).1, (expectEntries (expectEntry delay e).2 es).2)

theorem entries_read (es : List MEntry) (h : ∀ e ∈ es, okRead e) : ∀ (s : S),
    Reads (specEntries s es).1 (expectEntries s.delay es).1 ∧ (specEntries s es).2.delay = (expectEntries s.delay es).2 := by
  induction es with
  | nil => exact fun s => ⟨Reads.nil, rfl⟩
  | cons e es ih =>
    intro s
    obtain ⟨he, hes⟩ := List.forall_mem_cons.1 h
    obtain ⟨h1, h2⟩ := entry_read s e he
    obtain ⟨h3, h4⟩ := ih hes (specEntry s e).2
    rw [h2] at h3 h4
    exact ⟨h1.append h3, h4⟩

/-- a bar: the time carried into it shows as a rest in front of its time signature -/
def expectBars : Nat → List MBar → List (Nat × NC) × Nat
  | delay, [] => ([], delay)
  | delay, b :: bs =>
    (restOf delay ++ (expectEntries 0 b.entries).1 ++ (expectBars (expectEntries 0 b.entries).2 bs).1,
     (expectBars (expectEntries 0 b.entries).2 bs).2)

theorem bars_read (bs : List MBar) (h : ∀ b ∈ bs, ∀ e ∈ b.entries, okRead e) : ∀ (s : S),
    Reads (specBars s bs).1 (expectBars s.delay bs).1 ∧ (specBars s bs).2.delay = (expectBars s.delay bs).2 := by
  induction bs with
  | nil => exact fun s => ⟨Reads.nil, rfl⟩
  | cons b bs ih =>
    intro s
    obtain ⟨hb, hbs⟩ := List.forall_mem_cons.1 h
    obtain ⟨h1, h2⟩ := entries_read b.entries hb { s with delay := 0 }
    obtain ⟨h3, h4⟩ := ih hbs (specEntries { s with delay := 0 } b.entries).2
    rw [h2] at h3 h4
    refine ⟨?_, h4⟩
    simpa [specBars, specBar, expectBars, show restOf 0 = [] from rfl] using
      (((Reads.other s.delay (meterEv b) rfl).append (Reads.other 0 _ (isOn_key b.key))).append h1).append h3

theorem events_read (tr : MTrack) (bpm : Int) (h : ∀ b ∈ tr.bars, ∀ e ∈ b.entries, okRead e) :
    (((tempoEv bpm :: (specTrack s0 tr).1) ++ [eot]).map conv).foldl (absStep 72) ([], []) =
      ((expectBars 0 tr.bars).1.map toV, []) := by
  have hd : (withInstr s0 tr).delay = 0 := by unfold withInstr s0; cases tr.instr <;> rfl
  have := (((Reads.other 0 (tempoEv bpm).ev rfl).append (Reads.other 0 (.metaE 3 (MT.asciiBytes tr.name)) rfl)).append
    (bars_read tr.bars h (withInstr s0 tr)).1).append (Reads.other 0 eot.ev rfl)
  simpa [hd, specTrack, tempoEv, eot, show restOf 0 = [] from rfl] using this []

/-- the comparison the property prescribes: adjacent rests are one rest, trailing rests are ignored -/
def compress : Nat → List (Nat × NC) → List (Nat × NC)
  | _, [] => []
  | delay, (t, nc) :: xs => if nc = [] then compress (delay + t) xs else restOf delay ++ (t, nc) :: compress 0 xs

def written (bs : List MBar) : List (Nat × NC) := bs.flatMap fun b => b.entries.map fun e => (tickOf e.value, ncOf e.notes)

/-- the rest that is pending when the list ends: what `compress` drops, and what a list that follows starts from -/
def trail : Nat → List (Nat × NC) → Nat
  | delay, [] => delay
  | delay, (t, nc) :: xs => if nc = [] then trail (delay + t) xs else trail 0 xs

theorem compress_append (xs ys : List (Nat × NC)) : ∀ delay,
    compress delay (xs ++ ys) = compress delay xs ++ compress (trail delay xs) ys := by
  induction xs with
  | nil => intro delay; rfl
  | cons p ps ih =>
    intro delay
    simp only [List.cons_append, compress, trail]
    split <;> simp [ih]

theorem compress_append_rests (delay : Nat) (xs ys : List (Nat × NC)) (h : ∀ p ∈ xs, p.2 = []) :
    compress delay (xs ++ ys) = compress (delay + (xs.map (·.1)).sum) ys := by
  have rests : ∀ delay, compress delay xs = [] ∧ trail delay xs = delay + (xs.map (·.1)).sum := by
    induction xs with
    | nil => simp [compress, trail]
    | cons p ps ih =>
      intro delay
      obtain ⟨hp, hps⟩ := List.forall_mem_cons.1 h
      simp [compress, trail, hp, ih hps, Nat.add_assoc]
  rw [compress_append, (rests delay).1, (rests delay).2, List.nil_append]

theorem compress_restOf (delay d : Nat) (xs : List (Nat × NC)) : compress delay (restOf d ++ xs) = compress (delay + d) xs := by
  by_cases hd : d = 0 <;> simp [restOf, hd, compress]

theorem trail_restOf (delay d : Nat) (xs : List (Nat × NC)) : trail delay (restOf d ++ xs) = trail (delay + d) xs := by
  by_cases hd : d = 0 <;> simp [restOf, hd, trail]

theorem ncOf_ne_nil (n : Note) (rest : List Note) : ncOf (n :: rest) ≠ [] :=
  List.foldlRecOn (motive := (· ≠ [])) rest _ (NC.addNoteObj_ne_nil [] _) fun acc _ _ _ => NC.addNoteObj_ne_nil acc _

theorem compress_entries (es : List MEntry) : ∀ (delay c : Nat),
    compress c (expectEntries delay es).1 = compress (c + delay) (es.map fun e => (tickOf e.value, ncOf e.notes)) ∧
    trail c (expectEntries delay es).1 + (expectEntries delay es).2 =
      trail (c + delay) (es.map fun e => (tickOf e.value, ncOf e.notes)) := by
  induction es with
  | nil => intro delay c; simp [expectEntries, compress, trail]
  | cons e es ih =>
    intro delay c
    simp only [expectEntries, expectEntry, List.map_cons]
    cases hn : e.notes with
    | nil => simpa [compress, trail, ncOf, Nat.add_assoc] using ih (delay + tickOf e.value) c
    | cons n rest => simpa [compress, trail, compress_restOf, trail_restOf, ncOf_ne_nil] using ih 0 0

theorem compress_bars (bs : List MBar) : ∀ (delay c : Nat),
    compress c (expectBars delay bs).1 = compress (c + delay) (written bs) := by
  induction bs with
  | nil => intro delay c; rfl
  | cons b bs ih =>
    intro delay c
    obtain ⟨h1, h2⟩ := compress_entries b.entries 0 (c + delay)
    simp only [Nat.add_zero] at h1 h2
    simp only [expectBars, written, List.flatMap_cons, List.append_assoc]
    rw [compress_restOf, compress_append, compress_append, ih, h1, h2]
    rfl

/-- **the comparison the property prescribes**: joining adjacent rests and ignoring trailing ones, the sequence the reader
    extracts from a written track is the written sequence -/
theorem compress_read (bs : List MBar) : compress 0 (expectBars 0 bs).1 = compress 0 (written bs) :=
  compress_bars bs 0 0

/-- **C17, the round trip of one track, end to end.**  For every track that satisfies `okTrack` (in-range notes, meters
    and keys the writer accepts, no tempo-carrying container) with velocities ≥ 1 whose sounding entries last at least one
    tick, written once (repeat count 0) at a tempo of at least 4 bpm (`okBpm`) into fewer than 2^32 bytes:
    `write_Track` succeeds; mingus's byte parsers read the file back as one track of
    exactly the written events; and whenever the reader's second stage runs without a placement being refused on an empty
    bar, the entries of the composition that comes back are — up to one trailing open entry — the sequence `expectBars`,
    which `compress_read` identifies with the written music. -/
theorem roundtrip_track (tr : MTrack) (bpm : Int) (ht : okTrack tr) (hb : okBpm bpm)
    (hr : ∀ b ∈ tr.bars, ∀ e ∈ b.entries, okRead e)
    (hsize : (serialise (tempoEv bpm :: (specTrack s0 tr).1)).length + 4 < 2 ^ 32) :
    ∃ bytes evs, writeTrack tr bpm 0 = .ok bytes ∧
      parseFile bytes = .ok ((1, 1, 72), [evs]) ∧
      evs = ((tempoEv bpm :: (specTrack s0 tr).1) ++ [eot]).map conv ∧
      ∀ rt bpm', readTrack 72 120 evs = .ok (rt, bpm') → FitsRun 72 { bpm := 120 } evs →
        ∃ tail, tail.length ≤ 1 ∧ (rt.bars.flatMap (·.entries)).map ev = (expectBars 0 tr.bars).1.map toV ++ tail := by
  obtain ⟨t, hw, hevs⟩ := writeTrack_spec tr bpm 0 ht hb
  have hpass : (specPasses (fun s => specTrack s tr) (times 0) s0).1 = (specTrack s0 tr).1 := by
    simp [times, specPasses]
  rw [hpass] at hevs
  have hwf : WfTrack t :=
    ⟨hevs ▸ List.forall_mem_cons.2 ⟨good_tempo bpm, (good_specTrack s0 tr okInstr_s0 ht).1⟩, hevs ▸ hsize⟩
  have hparse := parseFile_fileBytes [t] (by simpa using hwf) (by simp)
  refine ⟨fileBytes [t], ((tempoEv bpm :: (specTrack s0 tr).1) ++ [eot]).map conv, hw, ?_, rfl, ?_⟩
  · rw [hparse]; simp [hevs]
  · intro rt bpm' hread hfits
    obtain ⟨tail, hl, hflat⟩ := readTrack_flat 72 120 _ rt bpm' hread hfits
    exact ⟨tail, hl, by rw [hflat, events_read tr bpm hr]⟩

theorem readback_keeps (n : Note) (h : okNote n) : (readback n).channel = n.channel ∧ (readback n).velocity = n.velocity := by
  simp [readback, noteOf_eq, Int.toNat_of_nonneg h.1, Int.toNat_of_nonneg h.2.2.1]

def fitsEvent (st1 : RState) : PEv → Bool
  | .chan 9 ch p1 (some p2) => (match noteOf ch p1 p2 with
      | .ok n => decide (st1.b.entries = [] → (st1.b.plus (some [n])).1 = true)
      | .error _ => true)
  | _ => true

def fitsRunB (tpb : Nat) : RState → List (Nat × PEv) → Bool
  | _, [] => true
  | st, de :: rest =>
    decide (gap tpb de.1 ≠ 0 → st.b.entries = [] → (st.b.place emptyNC (durOf tpb de.1)).1 = true) &&
    (match (if gap tpb de.1 ≠ 0 then onDelta st (durOf tpb de.1) else pure st) with
     | .error _ => true
     | .ok st1 => fitsEvent st1 de.2 &&
        (match onEvent st1 de.2 with
         | .error _ => true
         | .ok st' => fitsRunB tpb st' rest))

theorem fitsRunB_sound (tpb : Nat) (evs : List (Nat × PEv)) : ∀ st, fitsRunB tpb st evs = true → FitsRun tpb st evs := by
  induction evs with
  | nil => intro st _; trivial
  | cons de rest ih =>
    intro st h
    simp only [fitsRunB, Bool.and_eq_true, decide_eq_true_eq] at h
    obtain ⟨h1, h2⟩ := h
    refine ⟨h1, ?_⟩
    intro st1 hmid
    rw [hmid] at h2
    simp only [Bool.and_eq_true] at h2
    obtain ⟨h3, h4⟩ := h2
    refine ⟨?_, ?_⟩
    · intro ch p1 p2 n he hn hnil
      rw [he] at h3
      simp only [fitsEvent, hn, decide_eq_true_eq] at h3
      exact h3 hnil
    · intro st' hst'
      rw [hst'] at h4
      exact ih st' h4

example :
    let evs := ((tempoEv 120 :: (specTrack s0 demoTrack).1) ++ [eot]).map conv
    fitsRunB 72 { bpm := 120 } evs = true ∧
    (readTrack 72 120 evs).toOption.map (fun r => ((r.1.bars.flatMap (·.entries)).map ev).dropLast) =
      some ((expectBars 0 demoTrack.bars).1.map toV) ∧
    (expectBars 0 demoTrack.bars).1.map (·.1) = [72, 72, 36, 36, 54] ∧
    compress 0 (written demoTrack.bars) = compress 0 (expectBars 0 demoTrack.bars).1 := by
  decide +kernel

end Mingus.Props.C17
