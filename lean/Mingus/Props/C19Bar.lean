import Mingus.Props.C19Entry
import Mathlib.Data.List.Forall2
/-
  C19 — a whole LilyPond bar reads back.

  `readBody` is an independent reader of what `from_Bar` writes between the braces: entries separated by blanks (a chord
  `<a b c>4` is one token although it contains blanks), `\times n/a {` opening a tuplet block, `}` closing it.
  `readBody_lyEntries`: the entries of a bar, any number of them, each as `Reads` describes it, in any order (so with any
  pattern of tuplet blocks opening, continuing and closing), read back as the pitches, the base value and dots, and the
  tuplet ratio in force; `lyBar_reads` wraps it in the bar's braces.
  Both come from one induction, `lyEntries_spec`, which also says what the track reader will need of the body (its first
  token, its brace levels `lvl`); an entry enters it only through `IsEntry`, a block only through the lemmas on `timesText`.
-/
namespace Mingus.Props.C19
open Mingus Mingus.Export Mingus.Containers

theorem digit_plain (c : Char) (h : c.isDigit = true) : c ∉ " <>{}/\\".toList := fun hm => by
  rw [(by decide : ∀ x ∈ " <>{}/\\".toList, x.isDigit = false) c hm] at h; cases h

theorem showNat_plain (n : Nat) : Free " <>{}/\\".toList (Note.showNat n) := fun c hc =>
  digit_plain c (List.all_eq_true.1 (Note.showNat_spec n).1 c hc)

/-- scanning from brace depth `d ≥ 1` without ever closing the enclosing group; the depth reached -/
def lvl : Str → Nat → Option Nat
  | [], d => some d
  | c :: cs, d =>
    if c = '{' then lvl cs (d + 1)
    else if c = '}' then (if d ≤ 1 then none else lvl cs (d - 1))
    else lvl cs d

theorem lvl_append (a b : Str) : ∀ d, lvl (a ++ b) d = (lvl a d).bind (lvl b) := by
  induction a with
  | nil => intro d; rfl
  | cons c cs ih =>
    intro d
    simp only [List.cons_append, lvl]
    split
    · exact ih _
    · split
      · split
        · rfl
        · exact ih _
      · exact ih _

theorem lvl_free_append (a b : Str) (h : Free "{}".toList a) (d : Nat) : lvl (a ++ b) d = lvl b d := by
  induction a with
  | nil => rfl
  | cons c cs ih =>
    obtain ⟨hc, hcs⟩ := List.forall_mem_cons.1 h
    have hc : c ≠ '{' ∧ c ≠ '}' := by simpa using hc
    rw [List.cons_append, lvl, if_neg hc.1, if_neg hc.2, ih hcs]

theorem lvl_blank (X : Str) (d : Nat) : lvl (' ' :: X) d = lvl X d := by
  rw [lvl, if_neg (by decide), if_neg (by decide)]

theorem nextTok_word {w : Str} (h : Free " <>{}".toList w) (rest : Str) : nextTok (w ++ ' ' :: rest) false = (w, rest) :=
  nextTok_append _ _ false (scan_plain _ (h.mono (by decide)) false)

theorem lvl_word {w : Str} (h : Free " <>{}".toList w) (rest : Str) (d : Nat) : lvl (w ++ ' ' :: rest) d = lvl rest d := by
  rw [lvl_free_append _ _ (h.mono (by decide)), lvl_blank]

def parseRatio (r : Str) : Option (Nat × Nat) :=
  match Note.splitOn '/' r with
  | [x, y] => (match Note.parseNat? x, Note.parseNat? y with
    | some n, some a => some (n.toNat, a.toNat)
    | _, _ => none)
  | _ => none

/-- `ratio`: the tuplet ratio in force, as (actual, normal) -/
def readBody : Nat → Str → (Nat × Nat) → Option (List REntry)
  | 0, _, _ => none
  | fuel + 1, s, ratio =>
    if s = [] ∨ s = ['}'] then some []
    else
      let s := if s.head? = some '}' then s.drop 1 else s
      let t1 := nextTok s false
      if t1.1 = lit "\\times" then
        let t2 := nextTok t1.2 false
        let t3 := nextTok t2.2 false
        match parseRatio t2.1, t3.1 with
        | some (n, a), '{' :: body =>
          (match readEntry body with
           | some (notes, some d) => (readBody fuel t3.2 (a, n)).map fun l => (notes, d, (a, n)) :: l
           | _ => none)
        | _, _ => none
      else
        match readEntry t1.1 with
        | some (notes, some d) => (readBody fuel t1.2 ratio).map fun l => (notes, d, ratio) :: l
        | _ => none

def ratioText (n a : Nat) : Str := Note.showNat n ++ '/' :: Note.showNat a

theorem parseRatio_show (n a : Nat) : parseRatio (ratioText n a) = some (n, a) := by
  have hs (k : Nat) : '/' ∉ Note.showNat k := fun hm => showNat_plain k _ hm (by decide)
  simp only [ratioText, parseRatio, Note.splitOn_one_sep '/' _ _ (hs n) (hs a), Note.parse_show, Int.toNat_natCast]

theorem ratio_plain (n a : Nat) : Free " <>{}".toList (ratioText n a) :=
  ((showNat_plain n).mono (by decide)).append fun c hc => by
    rcases List.mem_cons.1 hc with rfl | hc
    · decide
    · exact (showNat_plain a).mono (by decide) c hc

theorem readBody_entry {tok : Str} {notes : List (Char × Str × Int)} {d : Rat × Nat} (h : IsEntry tok notes d) (rest : Str)
    (ratio : Nat × Nat) (fuel : Nat) :
    readBody (fuel + 1) (tok ++ ' ' :: rest) ratio = (readBody fuel rest ratio).map fun l => (notes, d, ratio) :: l := by
  obtain ⟨c, cs, rfl, hc⟩ := h.head
  have h1 : ¬ (c :: cs ++ ' ' :: rest = [] ∨ c :: cs ++ ' ' :: rest = ['}']) := by simp
  have h2 : (c :: cs ++ ' ' :: rest).head? ≠ some '}' := by simpa using hc.2
  have h3 : c :: cs ≠ lit "\\times" := fun e => hc.1 (List.cons.inj e).1
  simp only [readBody, h1, if_false, h2, nextTok_append _ rest false h.one, h3, h.reads]

/-- a new block: `\times n/a {tok rest`, after the `}` that closes the block open so far -/
def timesText (changed : Bool) (n a : Nat) (tok rest : Str) : Str :=
  (if changed then ['}'] else []) ++ (lit "\\times" ++ ' ' :: (ratioText n a ++ ' ' :: (('{' :: tok) ++ ' ' :: rest)))

/-- as `from_Bar` puts it together -/
theorem timesText_eq (changed : Bool) (n a : Nat) (tok rest : Str) :
    (if changed then lit "}" else []) ++ lit "\\times " ++ Note.showNat n ++ lit "/" ++ Note.showNat a ++ lit " {" ++ tok ++
      lit " " ++ rest = timesText changed n a tok rest := by
  cases changed <;> simp [timesText, ratioText, lit]

theorem timesText_tok (changed : Bool) (n a : Nat) (tok rest : Str) :
    nextTok (timesText changed n a tok rest) false =
      ((if changed then ['}'] else []) ++ lit "\\times", ratioText n a ++ ' ' :: (('{' :: tok) ++ ' ' :: rest)) := by
  rw [timesText, ← List.append_assoc, nextTok_append _ _ false (by cases changed <;> decide)]

theorem readBody_times {tok : Str} {notes : List (Char × Str × Int)} {d : Rat × Nat} (h : IsEntry tok notes d)
    (changed : Bool) (n a : Nat) (rest : Str) (ratio : Nat × Nat) (fuel : Nat) :
    readBody (fuel + 1) (timesText changed n a tok rest) ratio =
      (readBody fuel rest (a, n)).map fun l => (notes, d, (a, n)) :: l := by
  have h1 : ¬ (timesText changed n a tok rest = [] ∨ timesText changed n a tok rest = ['}']) := by
    cases changed <;> simp [timesText, lit]
  have h2 : (if (timesText changed n a tok rest).head? = some '}' then (timesText changed n a tok rest).drop 1
      else timesText changed n a tok rest) = timesText false n a tok rest := by
    cases changed <;> simp [timesText, lit]
  have h3 : scan ('{' :: tok) false = some false := h.one
  simp only [readBody, h1, if_false, h2, timesText_tok, Bool.false_eq_true, List.nil_append, if_true,
    nextTok_word (ratio_plain n a), parseRatio_show,
    nextTok_append _ _ false h3, h.reads]

theorem lvl_timesText {tok : Str} {notes : List (Char × Str × Int)} {d : Rat × Nat} (h : IsEntry tok notes d)
    (changed : Bool) (n a : Nat) (rest : Str) :
    lvl (timesText changed n a tok rest) (if changed then 2 else 1) = lvl rest 2 := by
  have hp : lvl (if changed then ['}'] else []) (if changed then 2 else 1) = some 1 := by cases changed <;> rfl
  rw [timesText, lvl_append, hp, Option.bind, lvl_word (by decide), lvl_word (ratio_plain n a), List.cons_append, lvl,
    if_pos rfl, lvl_free_append _ _ h.nobrace, lvl_blank]

theorem lyEntries_spec (es : List LEntry) : ∀ (xs : List REntry), List.Forall₂ Reads es xs →
    ∀ (latest : Nat × Nat) (changed : Bool),
    ∃ s, lyEntries es latest changed = .ok s ∧ es.length ≤ s.length ∧
      (∀ fuel, es.length < fuel → readBody fuel s latest = some xs) ∧
      (nextTok s false).1 ≠ lit "\\time" ∧ (nextTok s false).1 ≠ lit "\\key" ∧
      lvl s (if changed then 2 else 1) = some 1 := by
  induction es with
  | nil =>
    rintro _ ⟨⟩ latest changed
    refine ⟨if changed then lit "}" else [], rfl, by simp, fun fuel hf => ?_, ?_⟩
    · obtain ⟨f, rfl⟩ := Nat.exists_eq_add_of_lt hf
      cases changed <;> simp [readBody, lit]
    · cases changed <;> decide
  | cons e es ih =>
    intro xs hxs latest changed
    obtain ⟨x, xs, hx, hrest, rfl⟩ := List.forall₂_cons_left_iff.1 hxs
    obtain ⟨t1, ht, ⟨b, d, a, n⟩, t2, t3⟩ := entry_tok e x hx
    have hx' : x = (x.1, x.2.1, (a, n)) := by rw [t3]
    by_cases hsame : (a, n) = latest
    · obtain ⟨rest, r1, r2, r3, r4, r5, r6⟩ := ih xs hrest latest changed
      obtain ⟨c, cs, hc, hc'⟩ := ht.head
      refine ⟨entryTok e x ++ ' ' :: rest, ?_, by simp; omega, fun fuel hf => ?_, ?_, ?_, ?_⟩
      · rw [lyEntries]
        exact ok_then t2 (ok_then t1 (by rw [if_pos hsame]; exact ok_then r1 (by simp [lit])))
      · obtain ⟨f, rfl⟩ := Nat.exists_eq_add_of_lt hf
        rw [readBody_entry ht, r3 _ (by simp; omega), ← hsame, Option.map_some, ← hx']
      · rw [nextTok_append _ _ false ht.one, hc]; exact fun e => hc'.1 (List.cons.inj e).1
      · rw [nextTok_append _ _ false ht.one, hc]; exact fun e => hc'.1 (List.cons.inj e).1
      · rw [lvl_free_append _ _ ht.nobrace, lvl_blank]; exact r6
    · obtain ⟨rest, r1, r2, r3, r4, r5, r6⟩ := ih xs hrest (a, n) true
      refine ⟨timesText changed n a (entryTok e x) rest, ?_, by simp [timesText]; omega, fun fuel hf => ?_, ?_, ?_, ?_⟩
      · rw [lyEntries]
        exact ok_then t2 (ok_then t1 (by rw [if_neg hsame]; exact ok_then r1 (congrArg _ (timesText_eq ..))))
      · obtain ⟨f, rfl⟩ := Nat.exists_eq_add_of_lt hf
        rw [readBody_times ht, r3 _ (by simp; omega), Option.map_some, ← hx']
      · simp only [timesText_tok]; cases changed <;> decide
      · simp only [timesText_tok]; cases changed <;> decide
      · rw [lvl_timesText ht]; exact r6

/-- **the body of a bar reads back**, for any entries of the vocabulary, from any state of the tuplet bookkeeping -/
theorem readBody_lyEntries (es : List LEntry) : ∀ (xs : List REntry), List.Forall₂ Reads es xs →
    ∀ (latest : Nat × Nat) (changed : Bool),
    ∃ s, lyEntries es latest changed = .ok s ∧ es.length ≤ s.length ∧
      ∀ fuel, es.length < fuel → readBody fuel s latest = some xs := fun xs h latest changed =>
  let ⟨s, h1, h2, h3, _⟩ := lyEntries_spec es xs h latest changed
  ⟨s, h1, h2, h3⟩

/-- the reader of a bar written without key and time: `{ ` body `}` -/
def readBar (s : Str) : Option (List REntry) :=
  match s with
  | '{' :: ' ' :: rest => if rest.getLast? = some '}' then readBody (rest.length + 1) rest.dropLast (1, 1) else none
  | _ => none

/-- **a bar reads back** (`from_Bar(bar, showkey=False, showtime=False)`), any number of entries of the vocabulary -/
theorem lyBar_reads (b : LBar) (xs : List REntry) (h : List.Forall₂ Reads b.entries xs) :
    (lyBar b false false).toOption.bind readBar = some xs := by
  obtain ⟨s, h1, h2, h3⟩ := readBody_lyEntries b.entries xs h (1, 1) false
  have : lyBar b false false = .ok ('{' :: ' ' :: (s ++ ['}'])) := by
    rw [lyBar]; exact ok_then rfl (ok_then h1 (by simp [lit]))
  rw [this]
  simp only [Except.toOption, Option.bind, readBar, List.getLast?_append, List.getLast?_singleton, Option.some_or, if_true,
    List.dropLast_concat]
  exact h3 _ (by simp; omega)

private def nt (s : String) (o : Int) : Note := ⟨s.toList, o, 1, 64⟩

private def demo : LBar := ⟨lit "C", 4, 4,
  [⟨Value.dotsF 4 1, some [nt "C" 4, nt "Eb" 4, nt "G#" 5]⟩, ⟨Value.tuplet 8 3 2, some [nt "D" 3]⟩, ⟨Value.tuplet 8 3 2, none⟩,
   ⟨Value.tuplet 8 3 2, some [nt "F##" 2]⟩, ⟨8, none⟩]⟩

example : (lyBar demo false false).toOption.map String.ofList =
    some "{ <c' ees' gis''>4. \\times 2/3 {d8 r8 fisis,8 }\\times 1/1 {r8 }}" := by decide +kernel

example : ((lyBar demo false false).toOption.bind readBar == 
    some [([('c', lit "", 4), ('e', lit "b", 4), ('g', lit "#", 5)], (4, 1), (1, 1)), ([('d', lit "", 3)], (8, 0), (3, 2)),
          ([], (8, 0), (3, 2)), ([('f', lit "##", 2)], (8, 0), (3, 2)), ([], (8, 0), (1, 1))]) = true := by decide +kernel

end Mingus.Props.C19
