import Mingus.Lemmas.Chords
/-
  C06 — chord shorthand builds exactly the chord its formula prescribes on every root.
  `shorthand_formula` is unbounded in the root (any letter, any accidentals in any order); the table facts
  are kernel evaluations of the whole table; slash chords and polychords are in C06Poly.
-/
namespace Mingus.Props.C06
open Mingus Mingus.Notes Mingus.Keys Mingus.Intervals Mingus.Scales Mingus.Chords

/- intervals as (letters above the root, semitones above the root) -/
def P1 : Nat × Int := (0, 0)
def m2 : Nat × Int := (1, 1)
def M2 : Nat × Int := (1, 2)
def A2 : Nat × Int := (1, 3)
def m3 : Nat × Int := (2, 3)
def M3 : Nat × Int := (2, 4)
def P4 : Nat × Int := (3, 5)
def A4 : Nat × Int := (3, 6)
def d5 : Nat × Int := (4, 6)
def P5 : Nat × Int := (4, 7)
def A5 : Nat × Int := (4, 8)
def M6 : Nat × Int := (5, 9)
def d7 : Nat × Int := (6, 9)
def m7 : Nat × Int := (6, 10)
def M7 : Nat × Int := (6, 11)

/-- the chord formulas (from the builders' documented names: m7 = 1 b3 5 b7, dim7 = 1 b3 b5 bb7, 7#11 adds #4, …) -/
def formula : List (Str × List (Nat × Int)) :=
  [(lit "m", [P1,m3,P5]), (lit "M", [P1,M3,P5]), (lit "", [P1,M3,P5]), (lit "dim", [P1,m3,d5]), (lit "aug", [P1,M3,A5]),
   (lit "+", [P1,M3,A5]), (lit "7#5", [P1,M3,A5,m7]), (lit "M7+5", [P1,M3,A5,m7]), (lit "M7+", [P1,M3,A5,M7]),
   (lit "m7+", [P1,M3,A5,m7]), (lit "7+", [P1,M3,A5,M7]), (lit "sus47", [P1,P4,P5,m7]), (lit "7sus4", [P1,P4,P5,m7]),
   (lit "sus4", [P1,P4,P5]), (lit "sus2", [P1,M2,P5]), (lit "sus", [P1,P4,P5]), (lit "11", [P1,P5,m7,P4]),
   (lit "add11", [P1,P5,m7,P4]), (lit "sus4b9", [P1,P4,P5,m2]), (lit "susb9", [P1,P4,P5,m2]), (lit "m7", [P1,m3,P5,m7]),
   (lit "M7", [P1,M3,P5,M7]), (lit "7", [P1,M3,P5,m7]), (lit "dom7", [P1,M3,P5,m7]), (lit "m7b5", [P1,m3,d5,m7]),
   (lit "dim7", [P1,m3,d5,d7]), (lit "m/M7", [P1,m3,P5,M7]), (lit "mM7", [P1,m3,P5,M7]), (lit "m6", [P1,m3,P5,M6]),
   (lit "M6", [P1,M3,P5,M6]), (lit "6", [P1,M3,P5,M6]), (lit "6/7", [P1,M3,P5,M6,m7]), (lit "67", [P1,M3,P5,M6,m7]),
   (lit "6/9", [P1,M3,P5,M6,M2]), (lit "69", [P1,M3,P5,M6,M2]), (lit "9", [P1,M3,P5,m7,M2]), (lit "add9", [P1,M3,P5,m7,M2]),
   (lit "7b9", [P1,M3,P5,m7,m2]), (lit "7#9", [P1,M3,P5,m7,A2]), (lit "M9", [P1,M3,P5,M7,M2]), (lit "m9", [P1,m3,P5,m7,M2]),
   (lit "7#11", [P1,M3,P5,m7,A4]), (lit "m11", [P1,m3,P5,m7,P4]), (lit "M11", [P1,M3,P5,M7,M2,P4]),
   (lit "M13", [P1,M3,P5,M7,M2,M6]), (lit "m13", [P1,m3,P5,m7,M2,M6]), (lit "13", [P1,M3,P5,m7,M2,M6]),
   (lit "add13", [P1,M3,P5,m7,M2,M6]), (lit "7b5", [P1,M3,d5,m7]), (lit "hendrix", [P1,M3,P5,m7,m3]),
   (lit "7b12", [P1,M3,P5,m7,m3]), (lit "5", [P1,P5])]

/-- every builder's note expressions denote exactly its formula -/
theorem builders_match_formulas :
    chordShorthand.map (fun r => (r.1, r.2.map exprSpec)) = formula.map (fun r => (r.1, r.2.map some)) := by
  decide +kernel

theorem constructible_eq_meaningful :
    (∀ k ∈ chordShorthand.map (·.1), k ∈ chordMeaning.map (·.1)) ∧
    (∀ k ∈ chordMeaning.map (·.1), k ∈ chordShorthand.map (·.1)) := by decide +kernel
theorem keys_nodup : (chordShorthand.map (·.1)).Nodup := by decide +kernel

theorem same_meaning_same_builder :
    ∀ a ∈ chordMeaning, ∀ b ∈ chordMeaning, a.2 = b.2 → chordShorthand.lookup a.1 = chordShorthand.lookup b.1 := by
  decide +kernel

theorem named_builders_in_table : ∀ r ∈ namedKey, (chordShorthand.lookup r.2).isSome = true := by decide +kernel

/-- `j` is read as a chord name behind any root (`parse_step_plain`) -/
abbrev Plain (j : Str) : Prop :=
  normalize j = j ∧ (∀ ch ∈ j.head?, ch ≠ '#' ∧ ch ≠ 'b') ∧ '|' ∉ j ∧ ('/' ∉ j ∨ j ∈ slashExceptions)

theorem key_plain : ∀ r ∈ chordShorthand, Plain r.1 ∧ r.2.head? = some .root := by decide +kernel

theorem key_lookup {k : Str} {es : List NoteExpr} (hk : (k, es) ∈ chordShorthand) : chordShorthand.lookup k = some es :=
  lookup_of_mem keys_nodup hk

theorem builder_formula (k : Str) (es : List NoteExpr) (hk : (k, es) ∈ chordShorthand)
    (l : Char) (t : Str) (hv : valid (l :: t) = true) :
    ∃ ns specs, formula.lookup k = some specs ∧ evalBuilder es (l :: t) = .ok ns ∧
      MatchSpec l (pc (l :: t)) ns specs ∧ ns.head? = some (l :: t) := by
  have h := congrArg (List.lookup k) builders_match_formulas
  rw [lookup_map_snd (List.map exprSpec), lookup_map_snd (List.map some), key_lookup hk] at h
  obtain ⟨specs, h1, h2⟩ := Option.map_eq_some_iff.1 h.symm
  obtain ⟨ns, h4, h5⟩ := evalBuilder_good es specs h2.symm (good_of_valid l t hv)
  refine ⟨ns, specs, h1, h4, h5, ?_⟩
  have h3 := (key_plain _ hk).2
  cases es with
  | nil => cases h3
  | cons e es' =>
    cases h3
    simp only [evalBuilder, List.mapM_cons, evalExpr, ok_bind, bind_eq_ok, pure_eq_ok] at h4
    obtain ⟨_, -, rfl⟩ := h4
    rfl

theorem parse_step {l : Char} {t : Str} (hv : valid (l :: t) = true) {sh j : Str} (hn : normalize sh = (l :: t) ++ j)
    (hh : ∀ ch, j.head? = some ch → ch ≠ '#' ∧ ch ≠ 'b') (f : Nat) (sl : Slash) :
    fromShorthandAux (f + 1) sh sl =
      match scanRest j 0 none with
      | (some bar, _) =>
        (fromShorthandAux f (j.drop (bar + 1)) .none).bind fun right =>
          fromShorthandAux f ((l :: t) ++ j.take bar) (.chord right)
      | (none, some i) =>
        if slashExceptions.contains j then fromShorthandAux.finish (l :: t) j sl
        else fromShorthandAux f ((l :: t) ++ j.take i) (.note (j.drop (i + 1)))
      | (none, none) => fromShorthandAux.finish (l :: t) j sl := by
  obtain ⟨hl, ht⟩ := valid_cons.1 hv
  -- "NC" and "N.C." are their own normal forms, and `N` is not a note letter
  have hnc : ¬ (sh = lit "NC" ∨ sh = lit "N.C.") := by
    intro h
    have : (normalize sh).head? = some 'N' := by rcases h with rfl | rfl <;> decide +kernel
    rw [hn] at this
    cases this
    exact absurd hl (by decide)
  rw [fromShorthandAux, if_neg hnc]
  simp only [hn, List.cons_append, hl, Bool.not_true, Bool.false_eq_true, if_false, takeWhile_acc t j ht hh,
    List.drop_left]
  split
  · simp only [*]; rfl
  · cases hc : slashExceptions.contains j <;> simp only [*] <;> rfl
  · simp only [*]

theorem parse_step_plain {l : Char} {t : Str} (hv : valid (l :: t) = true) {j j' : Str} (hj : Plain j) (hn : normalize j' = j)
    (f : Nat) (sl : Slash) : fromShorthandAux (f + 1) ((l :: t) ++ j') sl = fromShorthandAux.finish (l :: t) j sl := by
  obtain ⟨-, hh, hb, hs⟩ := hj
  rw [parse_step hv (by rw [normalize_root hv, hn]) hh]
  rcases hs with hs | hs
  · rw [scanRest_noSep j fun ch hc => ⟨fun e => hs (e ▸ hc), fun e => hb (e ▸ hc)⟩]
  · have h1 := scanRest_fst hb 0 none
    rcases h : scanRest j 0 none with ⟨a, b⟩
    rw [h] at h1
    cases h1
    cases b <;> simp [hs]

theorem plain_parse (k : Str) (es : List NoteExpr) (hk : (k, es) ∈ chordShorthand)
    (l : Char) (t : Str) (hv : valid (l :: t) = true) :
    Chords.fromShorthand ((l :: t) ++ k) = evalBuilder es (l :: t) := by
  have hp := (key_plain _ hk).1
  rw [Chords.fromShorthand, parse_step_plain hv hp hp.1, fromShorthandAux.finish, key_lookup hk]
  exact bind_pure _

/-- the chord of a known shorthand on any root follows the formula (parser + builder together) -/
theorem shorthand_formula (k : Str) (es : List NoteExpr) (hk : (k, es) ∈ chordShorthand)
    (l : Char) (t : Str) (hv : valid (l :: t) = true) :
    ∃ ns specs, formula.lookup k = some specs ∧ Chords.fromShorthand ((l :: t) ++ k) = .ok ns ∧
      MatchSpec l (pc (l :: t)) ns specs ∧ ns.head? = some (l :: t) := by
  obtain ⟨ns, specs, h1, h2, h3, h4⟩ := builder_formula k es hk l t hv
  exact ⟨ns, specs, h1, by rw [plain_parse k es hk l t hv, h2], h3, h4⟩

def aliasSpellings : Str → List Str
  | [] => [[]]
  | ch :: t =>
    let tails := aliasSpellings t
    if ch = 'm' then tails.flatMap fun x => [lit "m" ++ x, lit "min" ++ x, lit "mi" ++ x, lit "-" ++ x]
    else if ch = 'M' then tails.flatMap fun x => [lit "M" ++ x, lit "maj" ++ x, lit "ma" ++ x]
    else tails.map (ch :: ·)

theorem aliases_normalize : ∀ r ∈ chordShorthand, ∀ k' ∈ aliasSpellings r.1, normalize k' = r.1 := by decide +kernel

/-- the spellings min, mi, '-' and maj, ma are interchangeable with m and M, on every root -/
theorem alias_interchangeable (k : Str) (es : List NoteExpr) (hk : (k, es) ∈ chordShorthand) (k' : Str)
    (hk' : k' ∈ aliasSpellings k) (l : Char) (t : Str) (hv : valid (l :: t) = true) :
    Chords.fromShorthand ((l :: t) ++ k') = Chords.fromShorthand ((l :: t) ++ k) := by
  have hp := (key_plain _ hk).1
  rw [Chords.fromShorthand, Chords.fromShorthand, parse_step_plain hv hp (aliases_normalize _ hk k' hk'), parse_step_plain hv hp hp.1]

theorem unknown_shorthand (l : Char) (t : Str) (hv : valid (l :: t) = true) (j : Str)
    (hn : normalize j = j) (hh : ∀ ch, j.head? = some ch → ch ≠ '#' ∧ ch ≠ 'b')
    (hs : scanRest j 0 none = (none, none)) (hu : chordShorthand.lookup j = none) :
    Chords.fromShorthand ((l :: t) ++ j) = .error .format := by
  rw [Chords.fromShorthand, parse_step hv (by rw [normalize_root hv, hn]) hh, hs]
  simp [fromShorthandAux.finish, hu]

theorem bad_root (sh : Str) (hnc : ¬ (sh = lit "NC" ∨ sh = lit "N.C.")) (c : Char) (r : Str)
    (hn : normalize sh = c :: r) (hc : isLetter c = false) : Chords.fromShorthand sh = .error .noteFormat := by
  unfold Chords.fromShorthand fromShorthandAux
  rw [if_neg hnc]
  simp [hn, hc]

theorem no_chord : Chords.fromShorthand (lit "NC") = .ok [] ∧ Chords.fromShorthand (lit "N.C.") = .ok [] := by decide +kernel

example : Chords.fromShorthand (lit "Cb#bdim7") = .ok (["Cb#b", "Ebb", "Gbb", "Bbbb"].map String.toList) := by decide +kernel
example : Chords.fromShorthand (lit "Amin7") = Chords.fromShorthand (lit "Am7") := by decide +kernel
example : Chords.fromShorthand (lit "Dm|G") = .ok (["G", "B", "D", "F", "A"].map String.toList) := by decide +kernel
example : Chords.fromShorthand (lit "Cfoo") = .error .format ∧ Chords.fromShorthand (lit "H7") = .error .noteFormat := by decide +kernel

end Mingus.Props.C06
