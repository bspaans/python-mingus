import Mingus.Props.C19Track
/-
  C19 — a whole LilyPond composition reads back.

  `readCompLy` reads what `from_Composition` writes: the `\header { title = "…" composer = "…" opus = "…" }` block (fields
  are what stands between the double quotes), then the tracks, each one brace group, separated by blanks.
  `lyComposition_reads`: for any title, author and subtitle without a double quote (the exporter does not escape; with a quote
  the text is not LilyPond), any number of tracks of any number of bars of the kind `lyTrack_reads` covers, the text reads back
  as exactly (title, author, subtitle, per track the bars with key and time where they change).
-/
namespace Mingus.Props.C19
open Mingus Mingus.Export Mingus.Containers

def stripPrefix (p s : Str) : Option Str := if p.isPrefixOf s then some (s.drop p.length) else none
def takeQ : Str → Str × Str
  | [] => ([], [])
  | c :: cs => if c = '"' then ([], cs) else (c :: (takeQ cs).1, (takeQ cs).2)

theorem stripPrefix_append (p x : Str) : stripPrefix p (p ++ x) = some x := by
  simp [stripPrefix, List.isPrefixOf_iff_prefix]

theorem takeQ_append (T x : Str) (h : '"' ∉ T) : takeQ (T ++ '"' :: x) = (T, x) := by
  induction T with
  | nil => simp [takeQ]
  | cons c cs ih =>
    simp only [List.cons_append, takeQ, (List.ne_of_not_mem_cons h).symm, if_false, ih (List.not_mem_of_not_mem_cons h)]

def readCompLy (s : Str) : Option (Str × Str × Str × List (List RBar)) :=
  (stripPrefix (lit "\\header { title = \"") s).bind fun s1 =>
  (stripPrefix (lit " composer = \"") (takeQ s1).2).bind fun s3 =>
  (stripPrefix (lit " opus = \"") (takeQ s3).2).bind fun s5 =>
  match (takeQ s5).2 ++ [' '] with
  | ' ' :: '}' :: ' ' :: tt =>
    (splitBars (tt.length + 1) tt).bind fun ts => (ts.mapM readTrackLy).map fun rts => ((takeQ s1).1, (takeQ s3).1, (takeQ s5).1, rts)
  | _ => none

theorem tracks_parts (tracks : List (List LBar)) : ∀ (xsss : List (List (List REntry))),
    List.Forall₂ (fun bars xss => List.Forall₂ BarOK bars xss) tracks xsss →
    ∃ parts rts, tracks.mapM lyTrack = .ok parts ∧ (∀ p ∈ parts, Closed p) ∧ parts.mapM readTrackLy = some rts ∧
      rts.map (·.map viewOf) = List.zipWith (fun bars xss => wantAll bars xss (lit "C") (4, 4)) tracks xsss := by
  induction tracks with
  | nil => rintro _ ⟨⟩; exact ⟨[], [], rfl, by simp, rfl, rfl⟩
  | cons t ts ih =>
    intro xsss h
    obtain ⟨xss, xsss, ht, hrest, rfl⟩ := List.forall₂_cons_left_iff.1 h
    obtain ⟨s, e1, e2, e3⟩ := lyTrack_spec t xss ht
    obtain ⟨parts, rts, p1, p2, p3, p4⟩ := ih xsss hrest
    obtain ⟨rt, hr, hv⟩ := Option.map_eq_some_iff.1 e3
    refine ⟨s :: parts, rt :: rts, ?_, by simpa using ⟨e2, p2⟩, by simp [List.mapM_cons, hr, p3], by simp [hv, p4]⟩
    rw [List.mapM_cons]; exact ok_then e1 (ok_then p1 rfl)

theorem foldl_join (parts : List Str) : ∀ (acc : Str),
    parts.foldl (fun acc p => acc ++ p ++ lit " ") acc = acc ++ spaced parts := fun acc =>
  foldl_inv _ (fun a done => a = acc ++ spaced done) parts acc (by simp) fun a p _ done h => by
    simp [h, lit]

/-- the joined tracks, with a blank in front, end with a blank: the character `from_Composition` drops -/
theorem spaced_ends (parts : List Str) : ∀ pre : Str, ∃ W, pre ++ ' ' :: spaced parts = W ++ [' '] := by
  induction parts with
  | nil => exact fun pre => ⟨pre, rfl⟩
  | cons p ps ih =>
    intro pre
    obtain ⟨W, hW⟩ := ih (pre ++ ' ' :: p)
    exact ⟨W, by simpa [spaced, List.flatMap_cons] using hW⟩

theorem lyComposition_reads (T A S : Str) (hT : '"' ∉ T) (hA : '"' ∉ A) (hS : '"' ∉ S) (tracks : List (List LBar))
    (xsss : List (List (List REntry))) (h : List.Forall₂ (fun bars xss => List.Forall₂ BarOK bars xss) tracks xsss) :
    ∃ s, lyComposition T A S tracks = .ok s ∧
      (readCompLy s).map (fun r => (r.1, r.2.1, r.2.2.1, r.2.2.2.map (·.map viewOf))) =
        some (T, A, S, List.zipWith (fun bars xss => wantAll bars xss (lit "C") (4, 4)) tracks xsss) := by
  obtain ⟨parts, rts, p1, p2, p3, p4⟩ := tracks_parts tracks xsss h
  obtain ⟨W, hW⟩ := spaced_ends parts [' ', '}']
  have hW' : W ++ [' '] = ' ' :: '}' :: ' ' :: spaced parts := hW.symm
  refine ⟨lit "\\header { title = \"" ++ (T ++ '"' :: (lit " composer = \"" ++ (A ++ '"' :: (lit " opus = \"" ++ (S ++ '"' :: W))))), ?_, ?_⟩
  · have e : lit "\\header { title = \"" ++ T ++ lit "\" composer = \"" ++ A ++ lit "\" opus = \"" ++ S ++ lit "\" } " ++
        ([] ++ spaced parts) =
        (lit "\\header { title = \"" ++ (T ++ '"' :: (lit " composer = \"" ++ (A ++ '"' :: (lit " opus = \"" ++ (S ++ '"' :: W)))))) ++
          [' '] := by
      simpa [lit, List.append_assoc] using hW
    simp only [lyComposition, p1, ok_bind, pure_ok, foldl_join]
    rw [e, List.dropLast_concat]
  · have hsb := splitBars_spaced parts p2 _ (Nat.lt_succ_self _)
    simp only [readCompLy, stripPrefix_append, Option.bind, takeQ_append T _ hT, takeQ_append A _ hA, takeQ_append S _ hS, hW', hsb,
      p3, Option.map_some, p4]

private def ct1 : LBar := ⟨lit "G", 4, 4, [⟨4, some [⟨lit "G", 4, 1, 64⟩]⟩, ⟨Value.dotsF 2 1, none⟩]⟩
example : ((lyComposition (lit "A {title}") (lit "me & you") (lit "") [[ct1], [ct1, ct1]]).toOption.bind readCompLy).map
    (fun r => (r.1, r.2.1, r.2.2.1, r.2.2.2.map (·.length))) = some (lit "A {title}", lit "me & you", lit "", [1, 2]) := by
  decide +kernel

end Mingus.Props.C19
