import Mingus.Props.C20Decode
import Mathlib.Algebra.Ring.Int.Defs  -- ℤ as a semiring: `span` sums with its `Zero ℤ`
/-
  C20 — the header of a composition's page (`add_headers`): centring and word wrapping.

  `centre_shape` / `centre_length`: `str.center` as the model has it pads with blanks only, never cuts, gives a line of
  exactly max(width, len) characters and splits the padding evenly (the sides differ by at most one).
  `wrapWords_flatten`: the description's wrapping loop loses no word, invents none and keeps their order — for ANY word list
  and width.  `wrapWords_fit`: every line of two or more words is shorter than width - 10.
-/
namespace Mingus.Props.C20
open Mingus Mingus.Tab

theorem centre_shape (x : Str) (w : Int) :
    ∃ a b : Int, 0 ≤ a ∧ 0 ≤ b ∧ centre x w = rep ' ' a ++ x ++ rep ' ' b ∧
      a + b = max 0 (w - x.length) ∧ (a = b ∨ a = b + 1 ∨ b = a + 1) := by
  unfold centre
  split
  · exact ⟨0, 0, by omega, by omega, by simp [rep], by omega, by omega⟩
  · -- the odd column goes to the left exactly when the width is odd too; either way the sides differ by at most one
    generalize hc : (if (w - x.length) % 2 = 1 ∧ w % 2 = 1 then (1 : Int) else 0) = c
    have : c = 0 ∨ c = 1 := by rw [← hc]; split <;> simp
    exact ⟨_, _, by omega, by omega, rfl, by omega, by omega⟩

theorem centre_length (x : Str) (w : Int) : ((centre x w).length : Int) = max (x.length : Int) w := by
  obtain ⟨a, b, ha, hb, he, hs, _⟩ := centre_shape x w
  simp only [he, List.length_append, rep_length]
  rcases Int.le_total (w - x.length) 0 with h | h
  · rw [Int.max_eq_left h] at hs; rw [Int.max_eq_left (by omega)]; omega
  · rw [Int.max_eq_right h] at hs; rw [Int.max_eq_right (by omega)]; omega

/-- `last` as the loop keeps it: every word of the open line and one blank each -/
def span (l : List Str) : Int := (l.map fun w => (w.length : Int) + 1).sum

theorem span_append (l : List Str) (w : Str) : span (l ++ [w]) = span l + w.length + 1 := by
  simp [span, List.sum_append]; omega

structure WrapInv (width : Int) (done : List Str) (st : List (List Str) × List Str × Int) : Prop where
  words : st.1.flatten ++ st.2.1 = done
  last : st.2.2 = span st.2.1
  fitOpen : 2 ≤ st.2.1.length → span st.2.1 - 1 < width - 10
  fitDone : ∀ l ∈ st.1, 2 ≤ l.length → span l - 1 < width - 10

theorem wrapStep_inv (width : Int) (done : List Str) (st : List (List Str) × List Str × Int) (w : Str)
    (h : WrapInv width done st) : WrapInv width (done ++ [w]) (wrapStep width st w) := by
  obtain ⟨h1, h2, h3, h4⟩ := h
  unfold wrapStep
  by_cases hc : (w.length : Int) + st.2.2 < width - 10
  · simp only [hc, if_true]
    refine ⟨?_, ?_, ?_, h4⟩
    · simp only; rw [← List.append_assoc, h1]
    · simp only; rw [span_append, h2]
    · intro _
      simp only; rw [span_append]; rw [h2] at hc; omega
  · simp only [hc, if_false]
    refine ⟨?_, ?_, ?_, ?_⟩
    · simp only [List.flatten_append, List.flatten_cons, List.flatten_nil, List.append_nil]; rw [h1]
    · simp [span]
    · intro h; simp at h
    · intro l hl
      rcases List.mem_append.mp hl with hl | hl
      · exact h4 l hl
      · simp only [List.mem_singleton] at hl; subst hl; exact h3

theorem wrap_fold_inv (width : Int) (words : List Str) :
    WrapInv width words (words.foldl (wrapStep width) ([], [], 0)) :=
  foldl_inv _ (fun st done => WrapInv width done st) words _ ⟨rfl, rfl, by intro h; simp at h, by intro l hl; cases hl⟩
    fun st w _ done h => wrapStep_inv width done st w h

theorem wrapWords_flatten (width : Int) (words : List Str) : (wrapWords width words).flatten = words := by
  have h := (wrap_fold_inv width words).words
  unfold wrapWords
  simpa using h

theorem wrapWords_fit (width : Int) (words : List Str) :
    ∀ l ∈ wrapWords width words, 2 ≤ l.length → span l - 1 < width - 10 := by
  intro l hl
  have h := wrap_fold_inv width words
  unfold wrapWords at hl
  rcases List.mem_append.mp hl with hl | hl
  · exact h.fitDone l hl
  · simp only [List.mem_singleton] at hl; subst hl; exact h.fitOpen

theorem intercalate_length (l : List Str) (hl : l ≠ []) :
    (((lit " ").intercalate l).length : Int) = span l - 1 := by
  induction l with
  | nil => exact absurd rfl hl
  | cons a t ih =>
    cases t with
    | nil => simp [List.intercalate, span]
    | cons b t' =>
      have := ih (by simp)
      rw [List.intercalate_cons_cons]
      simp only [span, List.map_cons, List.sum_cons, List.length_append, (by decide : (lit " ").length = 1)] at this ⊢
      push_cast at this ⊢
      omega

/-- the header's fixed frame: it opens with an empty line and the centred, spaced-out, upper-case title ... -/
theorem addHeaders_head (width : Int) (ttl subtitle author email description : Str) (tunings : List (Str × Str)) :
    (addHeaders width ttl subtitle author email description tunings).take 2 =
      [[], centre ((lit "  ").intercalate ((Tun.upper ttl).map fun c => [c])) width] := by
  -- every step of `add_headers` appends to what is there, or leaves it
  have step : ∀ (p r r' : List Line) (c : Prop) [Decidable c], r <+: r' → p <+: r → p <+: (if c then r' else r) := by
    intro p r r' c _ h' h
    split
    · exact h.trans h'
    · exact h
  rw [eq_comm]
  refine List.prefix_iff_eq_take.1 (List.IsPrefix.trans ?_ (List.prefix_append _ _))
  exact step _ _ _ _ (by simp) (step _ _ _ _ (by simp [List.append_assoc]) (step _ _ _ _ (by simp [List.append_assoc])
    (step _ _ _ _ (by simp) (List.prefix_refl _))))

/-- ... and closes with two empty lines, whatever fields are filled in -/
theorem addHeaders_tail (width : Int) (ttl subtitle author email description : Str) (tunings : List (Str × Str)) :
    ∃ body, addHeaders width ttl subtitle author email description tunings = body ++ [[], []] := by
  unfold addHeaders
  exact ⟨_, rfl⟩

theorem addHeaders_title_only (width : Int) (ttl : Str) :
    addHeaders width ttl [] [] [] [] [] =
      [[], centre ((lit "  ").intercalate ((Tun.upper ttl).map fun c => [c])) width, [], []] := by
  simp [addHeaders]

example : wrapWords 20 [lit "aaa", lit "bbbb", lit "cc", lit "ddddddddddddd", lit "e"] =
    [[lit "aaa", lit "bbbb"], [lit "cc"], [lit "ddddddddddddd"], [lit "e"]] := by decide +kernel

end Mingus.Props.C20
