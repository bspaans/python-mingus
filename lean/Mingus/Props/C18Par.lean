import Mingus.Props.C18Tempo
import Mathlib.Algebra.Order.Field.Rat
/-
  C18 — the parallel scheduler inside its working domain: bars that sound together with one common rhythm, filling their
  meter exactly in the scheduler's own float arithmetic; any entry may carry a tempo (the tempo in force after each step
  must not be 0, `hnz`: the code divides by it).  `playBars_equal_rhythm` is the case without tempo-changing containers.
  (Outside this domain the scheduler is wrong: `parallel_counterexample`, known finding C18-parallel-scheduler.)
-/
namespace Mingus.Props.C18
open Mingus Mingus.Seq Mingus.Containers

def tickAt (rh : List (Rat × Rat)) : Nat → Rat
  | 0 => 0
  | i + 1 => F64.add (tickAt rh i) (F64.div 1 (rh.getD i (0, 1)).2)

structure EqualRhythmT (bars : List SBar) (chans : List Int) (rh : List (Rat × Rat)) : Prop where
  nonempty : bars ≠ []
  chans_len : bars.length ≤ chans.length
  rhythm : ∀ b ∈ bars, b.entries.map (fun e => (e.start, e.value)) = rh
  notes : ∀ b ∈ bars, ∀ e ∈ b.entries, ∀ n ∈ ncNotes e.content, okN n
  values : ∀ p ∈ rh, p.2 ≠ 0

theorem EqualRhythmT.entries_length {bars chans rh} (h : EqualRhythmT bars chans rh) (b : SBar) (hb : b ∈ bars) :
    b.entries.length = rh.length := by
  rw [← h.rhythm b hb, List.length_map]

theorem EqualRhythmT.entry {bars chans rh} (h : EqualRhythmT bars chans rh) {n x : Nat} (hn : n < bars.length) (hx : x < rh.length) :
    ∃ b, bars[n]? = some b ∧ b.entries[x]? = some (entryAt bars n x) ∧ (entryAt bars n x).start = (rh.getD x (0, 1)).1 ∧
      (entryAt bars n x).value = (rh.getD x (0, 1)).2 ∧ ∀ m ∈ ncNotes (entryAt bars n x).content, okN m := by
  have hmem : bars[n] ∈ bars := List.getElem_mem hn
  have hx' : x < bars[n].entries.length := by rwa [h.entries_length _ hmem]
  have hat : entryAt bars n x = bars[n].entries[x] := by simp [entryAt, hn, hx']
  have hrh : rh.getD x (0, 1) = (bars[n].entries[x].start, bars[n].entries[x].value) := by
    rw [← h.rhythm _ hmem]; simp [hx']
  rw [hat, hrh]
  exact ⟨_, List.getElem?_eq_getElem hn, List.getElem?_eq_getElem hx', rfl, rfl, h.notes _ hmem _ (List.getElem_mem hx')⟩

def playingOf (bars : List SBar) (chans : List Int) (p : Nat × Nat) : Playing :=
  ⟨(entryAt bars p.1 p.2).value, (entryAt bars p.1 p.2).content, chans.getD p.1 0, p.1⟩

theorem startDue_all_tempo (bars : List SBar) (chans : List Int) (tick : Rat) (ps : List (Nat × Nat)) :
    ∀ (st : St) (bpm : Int) (pn : List (Rat × Nat)) (pl : List Playing), WF st →
      (∀ p ∈ ps, ∃ b ch, bars[p.1]? = some b ∧ b.entries[p.2]? = some (entryAt bars p.1 p.2) ∧
        (entryAt bars p.1 p.2).start ≤ tick ∧ chans[p.1]? = some ch ∧
        ∀ n ∈ ncNotes (entryAt bars p.1 p.2).content, okN n) →
      ∃ st', startDue bars chans tick ps (st, bpm, pn, pl) =
          .ok (st', ps.foldl (fun b p => ((entryAt bars p.1 p.2).bpm).getD b) bpm,
               pn ++ ps.map (fun p => ((entryAt bars p.1 p.2).value, p.1)), pl ++ ps.map (playingOf bars chans)) ∧
        Ext st st' (ps.flatMap fun p => (ncNotes (entryAt bars p.1 p.2).content).map onE) := by
  induction ps with
  | nil => intro st bpm pn pl _ _; exact ⟨st, by simp [startDue], by simpa using Ext.refl st⟩
  | cons p ps ih =>
    intro st bpm pn pl hw h
    obtain ⟨n, x⟩ := p
    obtain ⟨⟨b, ch, hb, he, hs, hc, hok⟩, ht⟩ := List.forall_mem_cons.1 h
    obtain ⟨s1, e1, x1⟩ := playNC_spec st (entryAt bars n x).content hok hw
    obtain ⟨s2, e2, x2⟩ := ih s1 (((entryAt bars n x).bpm).getD bpm) (pn ++ [((entryAt bars n x).value, n)])
      (pl ++ [playingOf bars chans (n, x)]) (x1.wf hw) ht
    refine ⟨s2, ?_, by simpa using x1.trans x2⟩
    have hc' : chans.getD n 0 = ch := by simp [List.getD_eq_getElem?_getD, show chans[n]? = some ch from hc]
    rw [startDue]
    simp only [hb, he, hs, hc, if_true]
    refine ok_then e1 ?_
    show startDue bars chans tick ps (s1, tempoAfter bpm (entryAt bars n x), _, _) = _
    rw [tempoAfter_eq, ← hc']
    exact e2.trans (by simp)

theorem tiny_pos : ¬ ((0 : Rat) ≥ tiny) := by decide +kernel

theorem sub_self_zero (x : Rat) : F64.sub x x = 0 := by
  simp [F64.sub, F64.round]

theorem settle_all (bars : List SBar) (shortest : Rat) (pl : List Playing) :
    ∀ (st : St) (cur : List Nat) (keep : List Playing), WF st →
      (∀ p ∈ pl, p.length = shortest ∧ ∀ n ∈ ncNotes p.nc, okN n) →
      ∃ st', settle bars shortest pl (st, cur, keep) = .ok (st', pl.foldl (fun c p => bump bars c p.n) cur, keep) ∧
        Ext st st' (pl.flatMap fun p => (ncNotes p.nc).map offE) := by
  induction pl with
  | nil => intro st cur keep _ _; exact ⟨st, by simp [settle], by simpa using Ext.refl st⟩
  | cons p ps ih =>
    intro st cur keep hw h
    obtain ⟨⟨hl, hok⟩, ht⟩ := List.forall_mem_cons.1 h
    obtain ⟨s1, e1, x1⟩ := stopNC_spec st p.nc hok hw
    obtain ⟨s2, e2, x2⟩ := ih s1 (bump bars cur p.n) keep (x1.wf hw) ht
    refine ⟨s2, ?_, by simpa using Ext.trans x1 x2⟩
    simp only [settle, hl, sub_self_zero, tiny_pos, if_false]
    exact ok_then e1 e2

theorem bump_all (bars : List SBar) (len i : Nat) (hlen : ∀ b ∈ bars, b.entries.length = len) :
    (List.range bars.length).foldl (fun c n => bump bars c n) (List.replicate bars.length i) =
      List.replicate bars.length (if i + 1 < len then i + 1 else i) := by
  -- after the first `j` bars: their cursors have moved, the other `r` have not
  suffices ∀ j r, j + r = bars.length → (List.range j).foldl (fun c n => bump bars c n) (List.replicate bars.length i) =
      List.replicate j (if i + 1 < len then i + 1 else i) ++ List.replicate r i by
    simpa using this bars.length 0 rfl
  intro j
  induction j with
  | zero => intro r hr; simp [← hr]
  | succ j ih =>
    intro r hr
    have hj : j < bars.length := by omega
    rw [List.replicate_succ' (n := j), List.append_assoc, List.singleton_append,
      List.range_succ, List.foldl_append, ih (r + 1) (by omega), List.foldl_cons, List.foldl_nil, bump,
      List.getElem?_append_right (by simp), List.getElem?_eq_getElem hj]
    simp only [List.length_replicate, Nat.sub_self, List.replicate_succ, List.getElem?_cons_zero, hlen _ (List.getElem_mem hj)]
    by_cases hlt : i + 1 < len <;> simp [hlt]

theorem maxLen_const (v : Rat) (l : List Rat) (hne : l ≠ []) (h : ∀ x ∈ l, x = v) : maxLen l = v := by
  have key : ∀ as : List Rat, (∀ x ∈ as, x = v) → as.foldl (fun m x => if x > m then x else m) v = v := fun as h =>
    List.foldlRecOn (motive := (· = v)) as _ rfl fun m hm x hx => by rw [hm, h x hx, if_neg (lt_irrefl v)]
  obtain ⟨a, as, rfl⟩ := List.exists_cons_of_ne_nil hne
  rw [maxLen, List.headD_cons, h a (by simp)]
  exact key _ (h a (by simp) ▸ h)

def colTrace (bars : List SBar) (bpm : Int) (v : Rat) (i : Nat) : List SEv :=
  ((List.range bars.length).flatMap fun n => (ncNotes (entryAt bars n i).content).map onE) ++
  [.sleep (F64.mul (F64.div 60 bpm) (F64.div 4 v))] ++
  ((List.range bars.length).flatMap fun n => (ncNotes (entryAt bars n i).content).map offE)

theorem zip_range_replicate (k i : Nat) : List.zip (List.range (List.replicate k i).length) (List.replicate k i) =
    (List.range k).map fun n => (n, i) := by
  simp only [List.length_replicate]
  apply List.ext_getElem
  · simp
  · intro n h1 h2
    simp

/-- one pass of the scheduler with every cursor on step `i`: every voice's entry is due and started, all have the same
    length, so all are stopped after one sleep and every cursor moves on (after the last step it stays) -/
theorem barsLoop_step {bars : List SBar} {chans : List Int} {rh : List (Rat × Rat)} (h : EqualRhythmT bars chans rh)
    (len0 : Rat) (fuel : Nat) (st : St) (hw : WF st) (bpm : Int) (i : Nat) (hi : i < rh.length)
    (hnz : stepBpm bars bpm i ≠ 0) (hdue : (rh.getD i (0, 1)).1 ≤ tickAt rh i) (hlt : tickAt rh i < len0) :
    ∃ st', barsLoop bars chans len0 (fuel + 1) st bpm (tickAt rh i) (List.replicate bars.length i) [] =
        barsLoop bars chans len0 fuel st' (stepBpm bars bpm i) (tickAt rh (i + 1))
          (List.replicate bars.length (if i + 1 < rh.length then i + 1 else i)) [] ∧
      Ext st st' (colTrace bars (stepBpm bars bpm i) (rh.getD i (0, 1)).2 i) := by
  set v := (rh.getD i (0, 1)).2
  have hval : ∀ n, n < bars.length → (entryAt bars n i).value = v := fun n hn =>
    let ⟨_, _, _, _, hv, _⟩ := h.entry hn hi; hv
  obtain ⟨s1, e1, x1⟩ := startDue_all_tempo bars chans (tickAt rh i) ((List.range bars.length).map fun n => (n, i)) st bpm [] [] hw
    (by
      intro p hp
      obtain ⟨n, hn, rfl⟩ := List.mem_map.1 hp
      have hn := List.mem_range.1 hn
      obtain ⟨b, hb, he, hs, -, hok⟩ := h.entry hn hi
      exact ⟨b, _, hb, he, hs.trans_le hdue, List.getElem?_eq_getElem (Nat.lt_of_lt_of_le hn h.chans_len), hok⟩)
  have x2 := emit_ext s1 (.sleep (F64.mul (F64.div 60 (stepBpm bars bpm i)) (F64.div 4 v))) (x1.wf hw)
  obtain ⟨s3, e3, x3⟩ := settle_all bars v (((List.range bars.length).map fun n => (n, i)).map (playingOf bars chans)) _
    (List.replicate bars.length i) [] (x2.wf (x1.wf hw)) (by
      intro p hp
      simp only [List.map_map, List.mem_map, List.mem_range, Function.comp] at hp
      obtain ⟨n, hn, rfl⟩ := hp
      exact ⟨hval n hn, let ⟨_, _, _, _, _, hok⟩ := h.entry hn hi; hok⟩)
  simp only [List.nil_append, List.map_map, List.foldl_map, List.flatMap_map, Function.comp_def, playingOf] at e1 e3 x1 x3
  rw [bump_all bars rh.length i h.entries_length] at e3
  refine ⟨s3, ?_, by simpa [colTrace] using (x1.trans x2).trans x3⟩
  have hpn : (List.range bars.length).map (fun x => ((entryAt bars x i).value, x)) ≠ [] := by simpa using h.nonempty
  have hshort : maxLen (((List.range bars.length).map fun x => ((entryAt bars x i).value, x)).map (·.1)) = v :=
    maxLen_const v _ (by simpa using h.nonempty) (by simpa using hval)
  have hvne : v ≠ 0 := h.values _ (by rw [List.getD_eq_getElem?_getD, List.getElem?_eq_getElem hi]; simp)
  rw [barsLoop, if_neg (not_not_intro hlt), zip_range_replicate]
  refine ok_then e1 ?_
  simp only [show List.foldl _ bpm (List.range bars.length) = stepBpm bars bpm i from rfl, hnz, hpn, hshort, hvne, false_and,
    if_false, if_true, ne_eq, not_false_eq_true, pure_bind, e3]
  rfl

theorem loop_equal_rhythm_tempo {bars : List SBar} {chans : List Int} {rh : List (Rat × Rat)} (h : EqualRhythmT bars chans rh)
    (bpm : Int) (hnz : ∀ i, bpmBefore bars bpm i ≠ 0) (len0 : Rat)
    (hdue : ∀ i, i < rh.length → (rh.getD i (0, 1)).1 ≤ tickAt rh i ∧ tickAt rh i < len0)
    (hfull : ¬ (tickAt rh rh.length < len0)) :
    ∀ (m i : Nat), i + m = rh.length → ∀ (fuel : Nat), m < fuel → ∀ (st : St) (cur : List Nat), WF st →
      -- after the last step the cursors stay where they are (`bump` does not move past the end), so `cur` is only known
      -- while `i < rh.length`
      (i < rh.length → cur = List.replicate bars.length i) →
      ∃ st', barsLoop bars chans len0 fuel st (bpmBefore bars bpm i) (tickAt rh i) cur [] =
          .ok (st', some (bpmBefore bars bpm rh.length), []) ∧
        Ext st st' ((List.range' i m).flatMap fun j => colTrace bars (bpmBefore bars bpm (j + 1)) (rh.getD j (0, 1)).2 j) := by
  intro m
  induction m with
  | zero =>
    intro i hi fuel hf st cur hw _
    obtain rfl : i = rh.length := by omega
    obtain ⟨f, rfl⟩ : ∃ f, fuel = f + 1 := ⟨fuel - 1, by omega⟩
    exact ⟨st, by simp [barsLoop, hfull], Ext.refl st⟩
  | succ m ih =>
    intro i hi fuel hf st cur hw hcur
    obtain ⟨f, rfl⟩ : ∃ f, fuel = f + 1 := ⟨fuel - 1, by omega⟩
    have hilt : i < rh.length := by omega
    obtain ⟨s1, e1, x1⟩ := barsLoop_step h len0 f st hw (bpmBefore bars bpm i) i hilt (hnz (i + 1)) (hdue i hilt).1 (hdue i hilt).2
    obtain ⟨s2, e2, x2⟩ := ih (i + 1) (by omega) f (by omega) s1
      (List.replicate bars.length (if i + 1 < rh.length then i + 1 else i)) (x1.wf hw) (fun hlt => by rw [if_pos hlt])
    exact ⟨s2, by rw [hcur hilt, e1]; exact e2, by simpa [List.range'_succ, bpmBefore] using x1.trans x2⟩

theorem foldl_sum_ge (bars : List SBar) : ∀ (a : Nat), a ≤ bars.foldl (fun a b => a + b.entries.length) a := fun a =>
  List.foldlRecOn bars _ (Nat.le_refl a) fun _ h _ _ => Nat.le_trans h (Nat.le_add_right ..)

/-- **play_Bars on bars with one common rhythm that fill their meter exactly** (`hdue`, `hfull`: in the scheduler's own float
    arithmetic every entry is due when the cursor reaches it, and after the last one the cursor has reached the bar length):
    step by step every bar's note-ons, one sleep at the tempo then in force, every bar's note-offs; observers receive exactly
    that; the tempo in force at the end is returned -/
theorem playBars_equal_rhythm_tempo {bars : List SBar} {chans : List Int} {rh : List (Rat × Rat)} (h : EqualRhythmT bars chans rh)
    (st : St) (hw : WF st) (bpm : Int) (hnz : ∀ i, bpmBefore bars bpm i ≠ 0)
    (hdue : ∀ i, i < rh.length → (rh.getD i (0, 1)).1 ≤ tickAt rh i ∧ tickAt rh i < (bars.headD default).length)
    (hfull : ¬ (tickAt rh rh.length < (bars.headD default).length)) :
    ∃ st', playBars st bars chans bpm = .ok (st', some (bpmBefore bars bpm rh.length)) ∧
      Ext st st' ((List.range rh.length).flatMap fun j => colTrace bars (bpmBefore bars bpm (j + 1)) (rh.getD j (0, 1)).2 j) := by
  obtain ⟨b0, bs, rfl⟩ := List.exists_cons_of_ne_nil h.nonempty
  have hfuel : rh.length < 4 * ((b0 :: bs).foldl (fun a b => a + b.entries.length) 0) + 64 := by
    have h1 := h.entries_length b0 (by simp)
    have h2 := foldl_sum_ge bs (0 + b0.entries.length)
    rw [List.foldl_cons]; omega
  obtain ⟨s1, e1, x1⟩ := loop_equal_rhythm_tempo h bpm hnz b0.length hdue hfull rh.length 0 (by omega) _ hfuel (notifyHigh st)
    _ hw.high (fun _ => rfl)
  refine ⟨s1, ?_, by simpa [List.range_eq_range'] using x1.of_high⟩
  rw [playBars, if_neg (show ¬ bpm = 0 from hnz 0), List.map_const']
  exact ok_then e1 rfl

def t1 : SBar := ⟨3/4, [⟨0, 4, some [c4], none⟩, ⟨1/4, 4, none, none⟩, ⟨1/2, 4, some [c4], some 90⟩]⟩
def t2 : SBar := ⟨3/4, [⟨0, 4, some [e4], none⟩, ⟨1/4, 4, some [e4], some 60⟩, ⟨1/2, 4, some [], none⟩]⟩
example : (List.range 4).map (bpmBefore [t1, t2] 120) = [120, 120, 60, 90] ∧
    (playBars {} [t1, t2] [1, 2] 120).toOption.map (fun r => (r.1.hooks, r.2)) =
      some ((List.range 3).flatMap (fun j => colTrace [t1, t2] (bpmBefore [t1, t2] 120 (j + 1)) 4 j), some 90) := by
  decide +kernel

structure EqualRhythm (bars : List SBar) (chans : List Int) (rh : List (Rat × Rat)) : Prop where
  nonempty : bars ≠ []
  chans_len : bars.length ≤ chans.length
  rhythm : ∀ b ∈ bars, b.entries.map (fun e => (e.start, e.value)) = rh
  plain : ∀ b ∈ bars, ∀ e ∈ b.entries, e.bpm = none ∧ (∀ n ∈ ncNotes e.content, okN n)
  values : ∀ p ∈ rh, p.2 ≠ 0

theorem EqualRhythm.toT {bars chans rh} (h : EqualRhythm bars chans rh) : EqualRhythmT bars chans rh :=
  ⟨h.nonempty, h.chans_len, h.rhythm, fun b hb e he => (h.plain b hb e he).2, h.values⟩

theorem EqualRhythm.bpm_none {bars chans rh} (h : EqualRhythm bars chans rh) (n i : Nat) : (entryAt bars n i).bpm = none := by
  unfold entryAt
  rw [List.getD_eq_getElem?_getD, List.getD_eq_getElem?_getD]
  cases hb : bars[n]? with
  | none => rfl
  | some b =>
    rw [Option.getD_some]
    cases he : b.entries[i]? with
    | none => rfl
    | some e => exact (h.plain b (List.mem_of_getElem? hb) e (List.mem_of_getElem? he)).1

theorem startDue_all (bars : List SBar) (chans : List Int) (tick : Rat) (ps : List (Nat × Nat)) :
    ∀ (st : St) (bpm : Int) (pn : List (Rat × Nat)) (pl : List Playing), WF st →
      (∀ p ∈ ps, ∃ b ch, bars[p.1]? = some b ∧ b.entries[p.2]? = some (entryAt bars p.1 p.2) ∧
        (entryAt bars p.1 p.2).start ≤ tick ∧ chans[p.1]? = some ch ∧ (entryAt bars p.1 p.2).bpm = none ∧
        ∀ n ∈ ncNotes (entryAt bars p.1 p.2).content, okN n) →
      ∃ st', startDue bars chans tick ps (st, bpm, pn, pl) =
          .ok (st', bpm, pn ++ ps.map (fun p => ((entryAt bars p.1 p.2).value, p.1)), pl ++ ps.map (playingOf bars chans)) ∧
        Ext st st' (ps.flatMap fun p => (ncNotes (entryAt bars p.1 p.2).content).map onE) := by
  intro st bpm pn pl hw h
  have := startDue_all_tempo bars chans tick ps st bpm pn pl hw fun p hp =>
    let ⟨b, ch, h1, h2, h3, h4, _, h6⟩ := h p hp; ⟨b, ch, h1, h2, h3, h4, h6⟩
  rwa [foldl_getD (· = bpm) _ ps (fun p hp v hv => let ⟨_, _, _, _, _, _, h5, _⟩ := h p hp; by simp [h5] at hv) bpm rfl] at this

theorem loop_equal_rhythm {bars : List SBar} {chans : List Int} {rh : List (Rat × Rat)} (h : EqualRhythm bars chans rh)
    (bpm : Int) (hbpm : bpm ≠ 0) (len0 : Rat)
    (hdue : ∀ i, i < rh.length → (rh.getD i (0, 1)).1 ≤ tickAt rh i ∧ tickAt rh i < len0)
    (hfull : ¬ (tickAt rh rh.length < len0)) :
    ∀ (m i : Nat), i + m = rh.length → ∀ (fuel : Nat), m < fuel → ∀ (st : St) (cur : List Nat), WF st →
      (i < rh.length → cur = List.replicate bars.length i) →
      ∃ st', barsLoop bars chans len0 fuel st bpm (tickAt rh i) cur [] = .ok (st', some bpm, []) ∧
        Ext st st' ((List.range m).flatMap fun j => colTrace bars bpm (rh.getD (i + j) (0, 1)).2 (i + j)) := by
  have hp := bpmBefore_plain bars bpm h.bpm_none
  simpa only [hp, List.range'_eq_map_range, List.flatMap_map] using
    loop_equal_rhythm_tempo h.toT bpm (fun i => (hp i).symm ▸ hbpm) len0 hdue hfull

theorem playBars_equal_rhythm {bars : List SBar} {chans : List Int} {rh : List (Rat × Rat)} (h : EqualRhythm bars chans rh)
    (st : St) (hw : WF st) (bpm : Int) (hbpm : bpm ≠ 0)
    (hdue : ∀ i, i < rh.length → (rh.getD i (0, 1)).1 ≤ tickAt rh i ∧ tickAt rh i < (bars.headD default).length)
    (hfull : ¬ (tickAt rh rh.length < (bars.headD default).length)) :
    ∃ st', playBars st bars chans bpm = .ok (st', some bpm) ∧
      Ext st st' ((List.range rh.length).flatMap fun j => colTrace bars bpm (rh.getD j (0, 1)).2 j) := by
  have hp := bpmBefore_plain bars bpm h.bpm_none
  simpa only [hp] using playBars_equal_rhythm_tempo h.toT st hw bpm (fun i => (hp i).symm ▸ hbpm) hdue hfull

def v1 : SBar := ⟨3/4, [⟨0, 4, some [c4], none⟩, ⟨1/4, 4, none, none⟩, ⟨1/2, 4, some [c4], none⟩]⟩
def v2 : SBar := ⟨3/4, [⟨0, 4, some [e4], none⟩, ⟨1/4, 4, some [e4], none⟩, ⟨1/2, 4, some [], none⟩]⟩
example : (tickAt [(0, 4), (1/4, 4), (1/2, 4)] 3 < (3/4 : Rat)) = False ∧
    (playBars {} [v1, v2] [1, 2] 120).toOption.map (fun r => (r.1.hooks, r.2)) =
      some ((List.range 3).flatMap (fun j => colTrace [v1, v2] 120 4 j), some 120) := by
  decide +kernel

end Mingus.Props.C18
