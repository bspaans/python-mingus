import Mingus.Props.C16Track
/-
  C16 — a container that carries a tempo (`bpm` attribute) inside a bar: an entry with notes and a tempo writes the tempo
  event with the accumulated rest as its delta, then what the entry writes without tempo after no rest (the unrepaired code
  reset the delta first: known_findings.json, fix ed36e72); a rest with a tempo writes nothing.
-/
namespace Mingus.Props.C16
open Mingus Mingus.Midi Mingus.Containers

def plain (e : MEntry) : MEntry := { e with bpm := none }

theorem entry_tempo_refines (t : MT) (evs : List TEv) (s : S) (e : MEntry) (b : Int) (hb : e.bpm = some b) (hbpm : okBpm b)
    (hr : Rel t evs s) (hi : okInstr s) (he : okEntry (plain e)) (hne : e.notes ≠ []) :
    ∃ t', t.playEntry e = .ok t' ∧
      Rel t' (evs ++ ⟨s.delay, .metaE 81 (be 3 ((60000000 : Int) / b).toNat)⟩ :: (specEntry { s with delay := 0 } (plain e)).1)
        (specEntry { s with delay := 0 } (plain e)).2 := by
  obtain ⟨r1, r2, r3, r4⟩ := hr
  obtain ⟨hv, hn, _⟩ := he
  obtain ⟨n, rest, hnotes⟩ := List.exists_cons_of_ne_nil hne
  simp only [plain, hnotes] at hv hn
  simp only [MT.playEntry, specEntry, plain, hv, hnotes, hb, reduceCtorEq, if_false, ok_bind, pure_ok, setTempo_ok _ b hbpm]
  rw [playNC_ok _ n rest (by simpa [okInstr, MT.emit, MT.setDelta, r3, r4] using hi) hn, ok_bind, stopNC_ok _ n rest rfl hn]
  exact ⟨_, rfl, by simp [Rel, MT.setDelta, MT.emit, r1, r2, r3, r4]⟩

/-- `notes = []`: `None` or the empty container -/
theorem rest_tempo_silent (t : MT) (e : MEntry) (hv : e.value ≠ 0) (hn : e.notes = []) :
    t.playEntry e = .ok { t with delay := t.delay + tickOf e.value } := by
  unfold MT.playEntry
  simp [hv, hn]

example : (({ delay := 36 } : MT).playEntry ⟨8, [⟨"E".toList, 4, 3, 90⟩, ⟨"G".toList, 4, 3, 90⟩], some 60⟩).toOption.map (·.evs) =
    some [⟨36, .metaE 81 [15, 66, 64]⟩, ⟨0, .chan2 9 3 64 90⟩, ⟨0, .chan2 9 3 67 90⟩, ⟨36, .chan2 8 3 64 90⟩, ⟨0, .chan2 8 3 67 90⟩] := by
  decide +kernel

end Mingus.Props.C16
