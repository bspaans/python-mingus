import Mingus.Props.C13
import Mingus.Lemmas.Float
/-
  C13 — on power-of-two values the implementation's FLOAT bar IS the exact bar, for every history.

  `round_exact` (Lemmas/Float.lean): every `m·2^k` with `|m| < 2^53` is a double.  The multiples of `2^-K` (`Grid K`) are
  closed under the bar's arithmetic and, below `2^(53-K)`, are doubles.  Hence, in a bar whose length is a positive
  multiple of `2^-K` not above 1024 (`K ≤ 40`), under ANY sequence of placements of values `2^j` (`0 ≤ j ≤ K`: whole
  notes and shorter, not breve or longa) and removals, every double operation the bar performs (`1/value`,
  `current + step`, `current - step`) is exact, the accept/refuse decisions are those of the exact bar, and the float
  bar's state (current beat, entry starts and values, contents) equals the exact bar's: `float_refines_exact`.
  `float_agrees_on_dyadic_fills` (complete fills of six meters with eight values, up to the first refusal) is the instance
  `K = 7`.  The recorded finding C13-float-exact-fill therefore needs a value that is not a power of two (it uses
  quintuplets): `float_counterexample`, a kernel evaluation of that one history.
-/
namespace Mingus.Props.C13
open Mingus Mingus.Containers

def absBar (b : Bar) : XBar := ⟨b.length, b.current, b.entries.map fun e => ⟨e.start, e.value, e.content⟩⟩

inductive DOp
  | place (content : Option NC) (v : Rat)
  | removeLast

/-- a removal from an empty bar raises IndexError in the code and leaves the bar as it is -/
def fstep (b : Bar) : DOp → Bar
  | .place c v => (b.place c v).2
  | .removeLast => match b.removeLast with | .ok b' => b' | .error _ => b

def toX : DOp → XOp
  | .place c v => .place c v
  | .removeLast => .removeLast

def IsP2 (K : Nat) (v : Rat) : Prop := ∃ j : Nat, j ≤ K ∧ v = ((2 ^ j : Nat) : Rat)

def Grid (K : Nat) (x : Rat) : Prop := ∃ m : Nat, x = (m : Rat) * F64.pow2 (-(K : Int))

theorem Grid.add {K x y} (hx : Grid K x) (hy : Grid K y) : Grid K (x + y) := by
  obtain ⟨m, rfl⟩ := hx; obtain ⟨n, rfl⟩ := hy
  exact ⟨m + n, by push_cast; ring⟩

theorem Grid.sub {K x y} (hx : Grid K x) (hy : Grid K y) (h : y ≤ x) : Grid K (x - y) := by
  obtain ⟨m, rfl⟩ := hx; obtain ⟨n, rfl⟩ := hy
  have hnm : n ≤ m := by exact_mod_cast le_of_mul_le_mul_right h (F64.pow2_pos _)
  exact ⟨m - n, by rw [Nat.cast_sub hnm]; ring⟩

theorem Grid.natMul {K x} (c : Nat) (hx : Grid K x) : Grid K (c * x) := by
  obtain ⟨m, rfl⟩ := hx
  exact ⟨c * m, by push_cast; ring⟩

theorem Grid.round_eq {K x} (hx : Grid K x) (hb : x < F64.pow2 (53 - K)) : F64.round x = x := by
  obtain ⟨m, rfl⟩ := hx
  exact F64.round_exact_of_lt m (-K) (by rwa [← sub_eq_add_neg])

theorem IsP2.grid {K v} (h : IsP2 K v) : Grid K (1 / v) := by
  obtain ⟨j, hj, rfl⟩ := h
  refine ⟨2 ^ (K - j), ?_⟩
  rw [← F64.pow2_natCast, ← F64.pow2_natCast, ← F64.pow2_add, F64.pow2_eq_zpow, F64.pow2_eq_zpow, one_div, ← zpow_neg]
  congr 1; push_cast [hj]; ring

theorem IsP2.inv_pos {K v} (h : IsP2 K v) : 0 < 1 / v := by
  obtain ⟨j, -, rfl⟩ := h; positivity

theorem IsP2.inv_le_one {K v} (h : IsP2 K v) : 1 / v ≤ 1 := by
  obtain ⟨j, -, rfl⟩ := h
  rw [div_le_one (by positivity)]
  exact_mod_cast Nat.one_le_two_pow

/-- the bounds of this file: bar lengths up to 1024 plus one step stay below `2^13 ≤ 2^(53-K)` for `K ≤ 40` -/
theorem Grid.exact {K x} (hK : K ≤ 40) (hx : Grid K x) (hb : x ≤ 1025) : F64.round x = x :=
  hx.round_eq <| hb.trans_lt <| lt_of_lt_of_le (by rw [F64.pow2_eq_zpow]; norm_num : (1025 : Rat) < F64.pow2 13)
    (F64.pow2_mono (by omega))

structure Good (K : Nat) (L : Rat) (b : Bar) : Prop where
  len : b.length = L
  inv : Inv (absBar b)
  vals : ∀ e ∈ b.entries, IsP2 K e.value
  grid : Grid K b.current
  le : b.current ≤ L

theorem place_refines (b : Bar) (c : Option NC) (v : Rat) (hd : F64.div 1 v = 1 / v)
    (ha : F64.add b.current (1 / v) = b.current + 1 / v) :
    (b.place c v).1 = decide (accepts (absBar b) v) ∧ absBar (b.place c v).2 = xstep (absBar b) (.place c v) := by
  by_cases h : b.current + 1 / v ≤ b.length ∨ b.length = 0 <;>
    simp only [Bar.place, xstep, accepts, hd, ha, absBar, h, if_true, if_false, decide_true, decide_false, List.map_append,
      List.map_cons, List.map_nil, and_self]

theorem Good.place_exact {K L b} (hK : K ≤ 40) (hL : L ≤ 1024) (hg : Good K L b) {v} (hv : IsP2 K v) :
    F64.div 1 v = 1 / v ∧ F64.add b.current (1 / v) = b.current + 1 / v :=
  ⟨hv.grid.exact hK (by linarith [hv.inv_le_one]),
   (hg.grid.add hv.grid).exact hK (by linarith [hv.inv_le_one, hg.le])⟩

theorem removeLast_refines (b : Bar)
    (h : ∀ e, b.entries.getLast? = some e → F64.sub b.current (F64.div 1 e.value) = b.current - 1 / e.value) :
    absBar (fstep b .removeLast) = xstep (absBar b) .removeLast := by
  simp only [fstep, Bar.removeLast, xstep, absBar, List.getLast?_map]
  cases hl : b.entries.getLast? with
  | none => rfl
  | some e => simp [h e hl, List.map_dropLast]

theorem total_nonneg (es : List XEntry) (h : ∀ e ∈ es, 0 < 1 / e.value) : 0 ≤ total es :=
  List.sum_nonneg (by simpa using fun e he => (h e he).le)

theorem last_le_current {K L b} (hg : Good K L b) {e} (he : b.entries.getLast? = some e) : 1 / e.value ≤ b.current := by
  have h := hg.inv.2
  rw [absBar, ← List.dropLast_append_getLast? e he, List.map_append, total_append] at h
  have := total_nonneg (b.entries.dropLast.map fun e => (⟨e.start, e.value, e.content⟩ : XEntry)) (by
    simp only [List.mem_map, forall_exists_index, and_imp, forall_apply_eq_imp_iff₂]
    exact fun y hy => (hg.vals y (List.mem_of_mem_dropLast hy)).inv_pos)
  simp only [total, List.map_cons, List.map_nil, List.sum_cons, List.sum_nil, add_zero] at h this
  linarith

theorem fstep_refines (K : Nat) (hK : K ≤ 40) (L : Rat) (hL0 : L ≠ 0) (hL : L ≤ 1024) (b : Bar) (hg : Good K L b) (op : DOp)
    (hop : ∀ c v, op = .place c v → IsP2 K v) :
    absBar (fstep b op) = xstep (absBar b) (toX op) ∧ Good K L (fstep b op) := by
  -- the exact bar's step keeps its invariant; the float bar inherits it through the refinement
  have hinv := step_inv _ (toX op) hg.inv
  cases op with
  | place c v =>
    have hv := hop c v rfl
    obtain ⟨hd, ha⟩ := hg.place_exact hK hL hv
    have href := (place_refines b c v hd ha).2
    rw [toX, ← href] at hinv
    refine ⟨href, ?_⟩
    show Good K L (b.place c v).2
    by_cases hacc : b.current + 1 / v ≤ L
    · have hf : (b.place c v).2 =
          { b with entries := b.entries ++ [⟨b.current, v, c⟩], current := b.current + 1 / v } := by
        simp only [Bar.place, hd, ha, hg.len, hacc, true_or, if_true]
      rw [hf] at hinv ⊢
      exact ⟨hg.len, hinv, by simpa [or_imp, forall_and, hv] using hg.vals, hg.grid.add hv.grid, hacc⟩
    · have hf : (b.place c v).2 = b := by
        simp only [Bar.place, hd, ha, hg.len, hacc, hL0, or_self, if_false]
      rw [hf]; exact hg
  | removeLast =>
    cases hl : b.entries.getLast? with
    | none =>
      have hf : fstep b .removeLast = b := by simp [fstep, Bar.removeLast, hl]
      have href := removeLast_refines b (fun e he => by rw [hl] at he; cases he)
      rw [hf] at href ⊢
      exact ⟨href, hg⟩
    | some e =>
      have hv := hg.vals e (List.mem_of_getLast? hl)
      have hge := last_le_current hg hl
      have hd := (hg.place_exact hK hL hv).1
      have hs : F64.sub b.current (1 / e.value) = b.current - 1 / e.value :=
        (hg.grid.sub hv.grid hge).exact hK (by linarith [hg.le, hL, hv.inv_pos])
      have href := removeLast_refines b (fun e' he => by cases hl.symm.trans he; rw [hd, hs])
      rw [toX, ← href] at hinv
      have hf : fstep b .removeLast = { b with current := b.current - 1 / e.value, entries := b.entries.dropLast } := by
        simp only [fstep, Bar.removeLast, hl, hd, hs, pure_ok]
      rw [hf] at hinv href ⊢
      exact ⟨href, hg.len, hinv, fun x hx => hg.vals x (List.mem_of_mem_dropLast hx), hg.grid.sub hv.grid hge,
        by linarith [hg.le, hv.inv_pos]⟩

theorem float_refines_exact (K : Nat) (hK : K ≤ 40) (L : Rat) (hL0 : L ≠ 0) (hL : L ≤ 1024) (ops : List DOp)
    (hops : ∀ op ∈ ops, ∀ c v, op = .place c v → IsP2 K v) :
    ∀ (b : Bar), Good K L b →
      absBar (ops.foldl fstep b) = (ops.map toX).foldl xstep (absBar b) ∧ Good K L (ops.foldl fstep b) := by
  induction ops with
  | nil => exact fun b hg => ⟨rfl, hg⟩
  | cons op ops ih =>
    intro b hg
    obtain ⟨hop, hops⟩ := List.forall_mem_cons.1 hops
    obtain ⟨h1, h2⟩ := fstep_refines K hK L hL0 hL b hg op hop
    simpa only [List.foldl_cons, List.map_cons, h1] using ih hops (fstep b op) h2

theorem isPow2Rat_of_isP2 {K unit} (hu : IsP2 K unit) : Bar.isPow2Rat unit = true := by
  obtain ⟨j, -, rfl⟩ := hu
  exact Bar.isPow2Rat_two_pow j

theorem new_good (K : Nat) (hK : K ≤ 40) (key : Str) (count : Nat) (unit : Rat) (hu : IsP2 K unit) (hc : 0 < count)
    (hcu : (count : Rat) / unit ≤ 1024) (b : Bar) (h : Bar.new key (count : Int) unit = .ok b) :
    Good K ((count : Rat) / unit) b ∧ (count : Rat) / unit ≠ 0 ∧ absBar b = { length := (count : Rat) / unit } := by
  have hpos : 0 < (count : Rat) / unit := by
    rw [div_eq_mul_one_div]; exact mul_pos (by exact_mod_cast hc) hu.inv_pos
  have hdiv : F64.div 1 unit = 1 / unit := hu.grid.exact hK (by linarith [hu.inv_le_one])
  have hmul : F64.mul ((count : Int) : Rat) (1 / unit) = (count : Rat) / unit := by
    rw [div_eq_mul_one_div (count : Rat)] at hcu ⊢
    rw [Int.cast_natCast]
    exact (hu.grid.natMul count).exact hK (by linarith)
  simp only [Bar.new, Bar.setMeter_pow2 _ _ (isPow2Rat_of_isP2 hu), bind_eq_ok, ok_bind, pure_eq_ok, hdiv, hmul] at h
  obtain ⟨_, -, rfl⟩ := h
  exact ⟨⟨rfl, by simp [Inv, absBar, StartsOK, total], by simp, ⟨0, by simp⟩, hpos.le⟩, hpos.ne', rfl⟩

/-- C13 for the float bar: a bar created in a meter `count / 2^u` (count ≤ 4096, length ≤ 1024), then ANY history of
    placements of power-of-two values (whole notes down to 2^40-th notes) and removals: the float bar's state is the exact bar's state -/
theorem bar_history_exact (K : Nat) (hK : K ≤ 40) (key : Str) (count : Nat) (unit : Rat) (hu : IsP2 K unit) (hc : 0 < count)
    (hcu : (count : Rat) / unit ≤ 1024) (hcb : count ≤ 2 ^ 12) (b0 : Bar) (h : Bar.new key (count : Int) unit = .ok b0)
    (ops : List DOp) (hops : ∀ op ∈ ops, ∀ c v, op = .place c v → IsP2 K v) :
    absBar (ops.foldl fstep b0) = (ops.map toX).foldl xstep { length := (count : Rat) / unit } := by
  obtain ⟨hg, hne, habs⟩ := new_good K hK key count unit hu hc hcu b0 h
  rw [(float_refines_exact K hK _ hne hcu ops hops b0 hg).1, habs]

def fill (b : Bar) (content : Option NC) (v : Rat) : Nat → List Bool × Bar
  | 0 => ([], b)
  | n+1 => let r := fill b content v n; let p := r.2.place content v; (r.1 ++ [p.1], p.2)

def xfill (b : XBar) (v : Rat) : Nat → List Bool × XBar
  | 0 => ([], b)
  | n+1 => let r := xfill b v n; (r.1 ++ [decide (accepts r.2 v)], xstep r.2 (.place none v))

def meters : List (Int × Rat) := [(4, 4), (3, 4), (6, 8), (12, 8), (2, 2), (5, 4)]
def dyadicValues : List Rat := [1, 2, 4, 8, 16, 32, 64, 128]

def dyadicAgree (m : Int × Rat) (v : Rat) : Bool :=
  match Bar.new (lit "C") m.1 m.2 with
  | .ok b =>
    let len : Rat := (m.1 : Rat) / m.2
    let n := (len * v).floor.toNat + 1   -- a complete fill and the first refused placement
    let f := fill b none v n
    let x := xfill { length := len } v n
    f.1 == x.1 && f.2.current == x.2.current && f.2.length == len &&
      f.2.entries.map (fun e => (e.start, e.value)) == x.2.entries.map (fun e => (e.start, e.value))
  | _ => false

theorem fill_refines {K L v} (hK : K ≤ 40) (hL0 : L ≠ 0) (hL : L ≤ 1024) (hv : IsP2 K v) {b} (hg : Good K L b) : ∀ n,
    (fill b none v n).1 = (xfill (absBar b) v n).1 ∧ absBar (fill b none v n).2 = (xfill (absBar b) v n).2 ∧
      Good K L (fill b none v n).2
  | 0 => ⟨rfl, rfl, hg⟩
  | n + 1 => by
    obtain ⟨h1, h2, h3⟩ := fill_refines hK hL0 hL hv hg n
    obtain ⟨hd, ha⟩ := h3.place_exact hK hL hv
    obtain ⟨r1, r2⟩ := fstep_refines K hK L hL0 hL _ h3 (.place none v) (fun _ _ e => by cases e; exact hv)
    simp only [fill, xfill, h1, ← h2, (place_refines _ none v hd ha).1]
    exact ⟨trivial, r1, r2⟩

theorem dyadicValues_p2 : ∀ v ∈ dyadicValues, IsP2 7 v := by
  have : dyadicValues = (List.range 8).map fun j => ((2 ^ j : Nat) : Rat) := by norm_num [dyadicValues, List.range_succ]
  rw [this]
  simp only [List.mem_map, List.mem_range, forall_exists_index, and_imp, forall_apply_eq_imp_iff₂]
  exact fun j hj => ⟨j, by omega, rfl⟩

theorem meters_dyadic : ∀ m ∈ meters, 0 < m.1 ∧ m.2 ∈ dyadicValues ∧ (m.1 : Rat) / m.2 ≤ 1024 := by decide +kernel

theorem dyadicAgree_of {K} (hK : K ≤ 40) (m : Int × Rat) (v : Rat) (h0 : 0 < m.1) (hu : IsP2 K m.2)
    (hle : (m.1 : Rat) / m.2 ≤ 1024) (hv : IsP2 K v) : dyadicAgree m v = true := by
  obtain ⟨c, unit⟩ := m
  obtain ⟨count, rfl⟩ : ∃ count : Nat, c = count := ⟨c.toNat, (Int.toNat_of_nonneg h0.le).symm⟩
  simp only [Int.cast_natCast] at hle
  have hnew : ∃ b, Bar.new (lit "C") (count : Int) unit = .ok b := by
    simp [Bar.new, Bar.setMeter_pow2 _ _ (isPow2Rat_of_isP2 hu), show Keys.keyObj (lit "C") = .ok _ from rfl]
  obtain ⟨b, hb⟩ := hnew
  obtain ⟨hg, hne, habs⟩ := new_good K hK _ count unit hu (Int.natCast_pos.1 h0) hle b hb
  simp only [dyadicAgree, hb, Int.cast_natCast]
  obtain ⟨h1, h2, h3⟩ := fill_refines hK hne hle hv hg (((count : Rat) / unit * v).floor.toNat + 1)
  rw [habs] at h1 h2
  simp [h1, ← h2, absBar, h3.len, List.map_map, Function.comp_def]

theorem float_agrees_on_dyadic_fills : ∀ m ∈ meters, ∀ v ∈ dyadicValues, dyadicAgree m v = true := by
  intro m hm v hv
  obtain ⟨h0, hu, hle⟩ := meters_dyadic m hm
  exact dyadicAgree_of (by omega) m v h0 (dyadicValues_p2 _ hu) hle (dyadicValues_p2 v hv)

/-- the acceptance clause for the float bar on all values: false (known finding C13-float-exact-fill) -/
def C13_float_full : Prop :=
  ∀ (v : Rat) (n : Nat), (fill {} none v n).1 = (xfill { length := 1 } v n).1

/-- the recorded finding: twenty quintuplet sixteenths (value 20) fill a 4/4 bar exactly, the exact bar accepts all
    of them, the float bar refuses the twentieth -/
theorem float_counterexample : ¬ C13_float_full := by
  intro h
  have := h 20 20
  revert this; decide +kernel

theorem float_counterexample_shape :
    (fill {} none 20 20).1 = List.replicate 19 true ++ [false] ∧ (xfill { length := 1 } 20 20).1 = List.replicate 20 true := by
  decide +kernel

example : IsP2 7 4 ∧ IsP2 7 16 ∧ IsP2 7 2 := ⟨⟨2, by omega, by norm_num⟩, ⟨4, by omega, by norm_num⟩, ⟨1, by omega, by norm_num⟩⟩
example : (Bar.new (lit "C") 4 4).toOption.map (fun b => ([DOp.place none 16, .place none 2, .removeLast, .place none 4].foldl fstep b).current) =
    some (5 / 16) := by decide +kernel

end Mingus.Props.C13
