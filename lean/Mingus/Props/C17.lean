import Mingus.Props.C16Meta
import Mingus.Model.MidiIn
import Mingus.Lemmas.Containers
import Mathlib.Tactic.NormNum
/-
  C17 — writing a composition to MIDI and reading it back.

  Proved here, for every input: the variable-length reader inverts the writer; mingus's own byte parsers read every
  file the writer model produces from fewer than 2^16 well-formed tracks (`WfTrack`) back as exactly the events written
  (so the reader's second stage sees the specification's events); the tempo round trip for every bpm with
  bpm·(bpm+1) ≤ 60 000 000 (and a counterexample beyond); key, name, meter and instrument events decode to what was
  written; files with a bad header tag, header length, format number or track tag are rejected.  The second stage (delta
  times → bar entries, with float bar accounting) is in C17Flat and C17Trip.
-/
namespace Mingus.Props.C17
open Mingus Mingus.Midi Mingus.MidiIn Mingus.Props.C16

theorem varbyte_eq_stdDec (s : Bytes) : ∀ (fuel acc cnt : Nat), s.length < fuel →
    (match stdDec acc s with
     | some (v, rest) => varbyte fuel acc cnt s = .ok (v, cnt + s.length - rest.length, rest)
     | none => varbyte fuel acc cnt s = .error .other) := by
  induction s with
  | nil => intro fuel acc cnt _; cases fuel <;> rfl
  | cons b bs ih =>
    intro fuel acc cnt hf
    obtain ⟨f, rfl⟩ : ∃ f, fuel = f + 1 := ⟨fuel - 1, by simp at hf; omega⟩
    simp only [stdDec, varbyte, List.length_cons]
    by_cases hb : b ≥ 128
    · rw [if_pos hb, if_pos hb, show cnt + (bs.length + 1) = cnt + 1 + bs.length by omega]
      exact ih f _ (cnt + 1) (by simpa using hf)
    · rw [if_neg hb, if_neg hb]
      show _ = Except.ok (_, cnt + (bs.length + 1) - bs.length, _)
      rw [show cnt + (bs.length + 1) - bs.length = cnt + 1 by omega]

/-- **the variable-length reader inverts the variable-length writer, for every n** (C17), returning the number of
    bytes of the encoding and leaving the following bytes untouched -/
theorem varbyte_toVarbyte (n : Nat) (tail : Bytes) (fuel cnt : Nat) (hf : (toVarbyte n ++ tail).length < fuel) :
    varbyte fuel 0 cnt (toVarbyte n ++ tail) = .ok (n, cnt + (toVarbyte n).length, tail) := by
  have := varbyte_eq_stdDec (toVarbyte n ++ tail) fuel 0 cnt hf
  rw [dec_toVarbyte] at this
  rw [this, List.length_append, ← Nat.add_assoc, Nat.add_sub_cancel]

theorem div_div_self_of_le (N b : Nat) (h1 : 1 ≤ b) (h2 : b * (b + 1) ≤ N) : N / (N / b) = b := by
  have hb : b + 1 ≤ N / b := (Nat.le_div_iff_mul_le (by omega)).2 (by rw [Nat.mul_comm]; exact h2)
  have hq1 : N / b * b ≤ N := Nat.div_mul_le_self _ _
  have hq2 : N < b * (N / b + 1) := Nat.lt_mul_div_succ _ (by omega)
  generalize N / b = q at *
  apply Nat.div_eq_of_lt_le
  · rw [Nat.mul_comm]; exact hq1
  · rw [Nat.succ_mul]
    rw [Nat.mul_succ] at hq2
    rw [Nat.mul_comm] at hq1
    omega

/-- **the tempo read back equals the tempo written** whenever bpm·(bpm+1) ≤ 60 000 000 (every bpm up to 7745) -/
theorem tempo_roundtrip (b : Nat) (h1 : 1 ≤ b) (h2 : b * (b + 1) ≤ 60000000) : 60000000 / (60000000 / b) = b :=
  div_div_self_of_le _ b h1 h2

/-- beyond that bound the file format (whole microseconds per quarter) cannot hold the tempo: 7999 comes back as 8000 -/
theorem tempo_counterexample : 60000000 / (60000000 / 7999) = 8000 := by decide

theorem bytesToInt_eq (b : Bytes) (h : b ≠ []) : bytesToInt b = .ok (beVal b) := by
  rw [bytesToInt, if_neg h]; rfl

theorem be_ne_nil (k n : Nat) : be (k + 1) n ≠ [] := List.ne_nil_of_length_pos (by rw [be_length]; omega)

theorem tempo_event_roundtrip (bpm : Int) (hb : okBpm bpm) (hmax : bpm ≤ 60000000) (st : RState) :
    onEvent st (.metaE 81 (be 3 ((60000000 : Int) / bpm).toNat)) =
      .ok { st with bpm := (60000000 : Int) / (((60000000 : Int) / bpm).toNat : Int) } := by
  unfold okBpm at hb
  have h1 : 1 ≤ (60000000 : Int) / bpm := Int.le_ediv_of_mul_le (by omega) (by omega)
  have hnz : ((60000000 : Int) / bpm).toNat ≠ 0 := by omega
  simp only [onEvent, bytesToInt_eq _ (be_ne_nil 2 _), beVal_tempo bpm hb, ok_bind, hnz, if_false, pure_ok]

-- `parse_midi_event` turns every two-parameter event whose second parameter is 0 into event type 8: a note-on with
-- velocity 0 reaches the second stage as a note-off
def toPEv : Ev → PEv
  | .chan2 k c a b => .chan (if b = 0 then 8 else k) c a (some b)
  | .chan1 k c a => .chan k c a none
  | .metaE t d => .metaE t d

theorem parseEvent_bytes (e : Ev) (h : WfEv e) (tail : Bytes) :
    parseEvent (e.bytes ++ tail) = .ok (toPEv e, e.bytes.length, tail) := by
  cases e with
  | chan2 k c a b =>
    obtain ⟨h1, h2, h3, h4, h5, _⟩ := h
    simp [Ev.bytes, parseEvent, status_split k h5, show ¬ k < 8 by omega, show k ≠ 15 by omega, h3, h4, toPEv]
  | chan1 k c a =>
    obtain ⟨h1, h2, _⟩ := h
    simp [Ev.bytes, parseEvent, status_split k h2, show ¬ k < 8 by omega, show k ≠ 15 by omega, h1, toPEv]
  | metaE t d =>
    simp only [Ev.bytes, List.cons_append, List.nil_append, List.append_assoc, parseEvent]
    simp only [show ¬ (255 / 16 < 8) by decide, show 255 / 16 = 15 by decide, if_false, if_true]
    rw [varbyte_toVarbyte d.length (d ++ tail) _ 0 (by omega)]
    simp [toPEv]
    omega

def conv (e : TEv) : Nat × PEv := (e.delta, toPEv e.ev)

theorem loop_cons (e : TEv) (he : WfEv e.ev) (f : Nat) (size : Int) (hs : 0 < size) (rest : Bytes) :
    parseEventsLoop (f + 1) size (e.bytes ++ rest) =
      (parseEventsLoop f (size - e.bytes.length) rest).map fun r => (conv e :: r.1, r.2) := by
  rw [parseEventsLoop, if_neg (by omega), TEv.bytes, List.append_assoc]
  simp only [varbyte_toVarbyte e.delta _ _ 0 (Nat.lt_succ_self _), parseEvent_bytes e.ev he, ok_bind]
  rw [show size - ((0 + (toVarbyte e.delta).length : Nat) : Int) - (e.ev.bytes.length : Int) =
    size - ((toVarbyte e.delta ++ e.ev.bytes).length : Nat) by simp only [List.length_append]; push_cast; omega]
  cases parseEventsLoop f _ rest <;> rfl

theorem loop_serialise (evs : List TEv) (h : ∀ e ∈ evs, WfEv e.ev) (tail : Bytes) :
    ∀ f, evs.length < f →
      parseEventsLoop f ((serialise evs).length : Int) (serialise evs ++ tail) = .ok (evs.map conv, tail) := by
  induction evs with
  | nil => intro f hf; cases f with
    | zero => simp at hf
    | succ f => simp [serialise, parseEventsLoop]
  | cons e es ih =>
    intro f hf
    obtain ⟨he, hes⟩ := List.forall_mem_cons.1 h
    obtain ⟨f, rfl⟩ : ∃ g, f = g + 1 := ⟨f - 1, by simp at hf; omega⟩
    have hpos : 0 < e.bytes.length := List.length_pos_iff.2 (tev_bytes_ne_nil e)
    rw [show serialise (e :: es) = e.bytes ++ serialise es from rfl, List.append_assoc,
      loop_cons e he f _ (by simp only [List.length_append]; omega), List.length_append, Nat.cast_add,
      add_sub_cancel_left, ih hes f (by simpa using hf)]
    rfl

theorem parseTrack_tagged (sz : Bytes) (hsz : sz.length = 4) (s : Bytes) :
    parseTrack ([77, 84, 114, 107] ++ sz ++ s) = bytesToInt sz >>= fun size => parseEventsLoop (s.length + 1) size s := by
  simp [parseTrack, MidiIn.read, List.take_left' hsz, List.drop_left' hsz]

theorem parseTrack_chunk (t : MT) (h : WfTrack t) (tail : Bytes) :
    parseTrack (t.chunk ++ tail) = .ok ((t.evs ++ [eot]).map conv, tail) := by
  rw [chunk_eq, List.append_assoc, parseTrack_tagged _ (be_length ..), bytesToInt_eq _ (be_ne_nil 3 _),
    beVal_be4 _ (wf_eot h).2]
  exact loop_serialise _ (wf_eot h).1 tail _ (by
    have := serialise_length_ge (t.evs ++ [eot]); simp only [List.length_append] at *; omega)

theorem parseTracks_chunks (ts : List MT) (h : ∀ t ∈ ts, WfTrack t) :
    parseTracks ts.length (ts.flatMap MT.chunk) = .ok (ts.map fun t => (t.evs ++ [eot]).map conv) := by
  induction ts with
  | nil => rfl
  | cons t ts ih =>
    obtain ⟨ht, hts⟩ := List.forall_mem_cons.1 h
    simp [parseTracks, parseTrack_chunk t ht, ih hts]

theorem parseHeader_six (f1 f2 n1 n2 d1 d2 : Nat) (rest : Bytes) :
    parseHeader (77 :: 84 :: 104 :: 100 :: 0 :: 0 :: 0 :: 6 :: f1 :: f2 :: n1 :: n2 :: d1 :: d2 :: rest) =
      if f1 * 256 + f2 > 2 then .error .other else if d1 * 256 + d2 ≥ 32768 then .error .other
      else .ok (some (f1 * 256 + f2, n1 * 256 + n2, d1 * 256 + d2), rest) := by
  have b6 : bytesToInt [0, 0, 0, 6] = .ok 6 := by decide
  have b2 : ∀ x y, bytesToInt [x, y] = .ok (x * 256 + y) := by simp [bytesToInt]
  simp [parseHeader, MidiIn.read, b6, b2, io]

/-- **mingus's own parsers read every written file back as exactly the events written** (plus the end-of-track marker),
    with format 1 and 72 ticks per quarter, for any number of events in fewer than 2^16 well-formed tracks (`WfTrack`) -/
theorem parseFile_fileBytes (ts : List MT) (h : ∀ t ∈ ts, WfTrack t) (hn : ts.length < 2 ^ 16) :
    parseFile (fileBytes ts) = .ok ((1, ts.length, 72), ts.map fun t => (t.evs ++ [eot]).map conv) := by
  have : ts.length / 256 % 256 * 256 + ts.length % 256 = ts.length := by omega
  simp [parseFile, fileBytes_eq, parseHeader_six, this, parseTracks_chunks ts h]

theorem reject_bad_header_tag (s : Bytes) (h : s.take 4 ≠ [77, 84, 104, 100]) : ∃ e, readBytes s = .error e := by
  refine ⟨.other, ?_⟩
  simp [readBytes, parseFile, parseHeader, MidiIn.read, h]

theorem reject_short_header (rest : Bytes) (a b c d : Nat) (h : bytesToInt [a, b, c, d] = .ok n) (hn : n < 6) :
    ∃ e, readBytes ([77, 84, 104, 100, a, b, c, d] ++ rest) = .error e := by
  refine ⟨.type, ?_⟩
  simp [readBytes, parseFile, parseHeader, MidiIn.read, h, hn, io]

theorem reject_impossible_format (rest : Bytes) (f1 f2 : Nat) (h : f1 * 256 + f2 > 2) :
    ∃ e, readBytes ([77, 84, 104, 100, 0, 0, 0, 6, f1, f2] ++ rest) = .error e := by
  refine ⟨.other, ?_⟩
  have b6 : bytesToInt [0, 0, 0, 6] = .ok 6 := by decide
  have bf : bytesToInt [f1, f2] = .ok (f1 * 256 + f2) := by simp [bytesToInt]
  simp [readBytes, parseFile, parseHeader, MidiIn.read, b6, bf, h, io]

theorem reject_bad_track_tag (s : Bytes) (h : s.take 4 ≠ [77, 84, 114, 107]) : parseTrack s = .error .header := by
  simp [parseTrack, MidiIn.read, h]

theorem reject_bad_first_track (n1 n2 d1 d2 : Nat) (rest : Bytes) (f : Nat) (hf : f ≤ 2) (hn : n1 * 256 + n2 ≥ 1)
    (hd : d1 * 256 + d2 < 32768) (h : rest.take 4 ≠ [77, 84, 114, 107]) :
    ∃ e, readBytes ([77, 84, 104, 100, 0, 0, 0, 6, 0, f, n1, n2, d1, d2] ++ rest) = .error e := by
  refine ⟨.header, ?_⟩
  obtain ⟨k, hk⟩ : ∃ k, n1 * 256 + n2 = k + 1 := ⟨n1 * 256 + n2 - 1, by omega⟩
  simp [readBytes, parseFile, parseHeader_six, show ¬ f > 2 by omega, show ¬ d1 * 256 + d2 ≥ 32768 by omega, hk, parseTracks,
    reject_bad_track_tag rest h]

/-- every one of the 30 keys: the key-signature event the writer produces sets exactly that key on the bar (whole table) -/
theorem key_roundtrip : ∀ k ∈ Keys.allKeys,
    (match keyEv? k with
     | some (.metaE 89 d) => (onEvent { bpm := 120 } (.metaE 89 d)).toOption.map (fun st => (st.key, st.b.key))
     | _ => none) = some (k, k) := by
  decide +kernel

theorem name_roundtrip (name : Str) (h : ∀ c ∈ name, c.toNat < 128) (st : RState) :
    onEvent st (.metaE 3 (MT.asciiBytes name)) = .ok { st with t := { st.t with name := name } } := by
  have h1 : (MT.asciiBytes name).any (· ≥ 128) = false := by simpa [MT.asciiBytes] using h
  have h2 : (MT.asciiBytes name).map Char.ofNat = name := by simp [MT.asciiBytes, Function.comp_def]
  simp only [onEvent, h1, Bool.false_eq_true, if_false, h2, pure_ok]

theorem instrument_roundtrip (st : RState) (ch nr : Nat) :
    onEvent st (toPEv (.chan1 12 ch nr)) = .ok { st with t := { st.t with instr := some nr } } := by
  simp [toPEv, onEvent]

theorem isPow2Rat_two_pow (k : Nat) : Containers.Bar.isPow2Rat ((2 : Rat) ^ k) = true := by
  rw [show (2 : Rat) ^ k = ((2 ^ k : Nat) : Rat) by push_cast; rfl]
  exact Containers.Bar.isPow2Rat_two_pow k

/-- the meter a bar was written with (unit a power of two) is the meter set from its time-signature event -/
theorem meter_roundtrip (st : RState) (count k : Nat) :
    (onEvent st (.metaE 88 [count, MT.ilog2 (2 ^ k), 24, 8])).toOption.map (fun s => s.meter) = some ((count : Int), (2 : Rat) ^ k) := by
  simp [onEvent, MT.ilog2, Nat.log2_two_pow, Containers.Bar.setMeter, isPow2Rat_two_pow, Except.toOption]

end Mingus.Props.C17
