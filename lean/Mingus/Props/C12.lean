import Mingus.Lemmas.Containers
/-
  C12 — a NoteContainer is a pitch-ordered, duplicate-free set under any history.
  `history_inv` is an induction over arbitrary operation sequences (no bound on length); `addNoteObj_mem` and `remove_mem`
  give the set each operation leaves.  Also here: the voicing clause for bare names (`voicing_partial`, with the
  counterexample to its full strength), `pairwise_spec` (a pairwise test that never raises is "all pairs"; the container's
  consonance tests, which raise on invalid names, are not stated) and `eq_spec`.
-/
namespace Mingus.Props.C12
open Mingus Mingus.Notes Mingus.Containers Mingus.Containers.NC

def Inv (l : NC) : Prop := l.Pairwise (fun a b => a.pitch < b.pitch)

theorem mem_insertSorted (n x : Note) (l : NC) : x ∈ insertSorted n l ↔ x = n ∨ x ∈ l := by
  induction l with
  | nil => simp [insertSorted]
  | cons a t ih =>
    simp only [insertSorted]
    split
    · simp
    · simp [ih, or_left_comm]

theorem insertSorted_inv (n : Note) (l : NC) (h : Inv l) (hn : ∀ x ∈ l, x.pitch ≠ n.pitch) : Inv (insertSorted n l) := by
  induction l with
  | nil => simp [insertSorted, Inv]
  | cons a t ih =>
    simp only [Inv, List.pairwise_cons, List.forall_mem_cons] at h hn
    simp only [insertSorted]
    split
    · rename_i hlt
      exact List.pairwise_cons.2 ⟨by simpa [hlt] using fun b hb => Int.lt_trans hlt (h.1 b hb), List.pairwise_cons.2 h⟩
    · refine List.pairwise_cons.2 ⟨fun b hb => ?_, ih h.2 hn.2⟩
      rcases (mem_insertSorted n b t).1 hb with rfl | hb
      · have := hn.1; omega
      · exact h.1 b hb

theorem insertSorted_at_end (x : Note) (acc : NC) (h : ∀ a ∈ acc, a.pitch < x.pitch) : insertSorted x acc = acc ++ [x] := by
  induction acc with
  | nil => rfl
  | cons a t ih =>
    obtain ⟨ha, ht⟩ := List.forall_mem_cons.1 h
    have : ¬ x.pitch < a.pitch := by omega
    simp only [insertSorted, this, if_false, List.cons_append]
    rw [ih ht]

theorem foldl_sorted (l acc : NC) (h : Inv (acc ++ l)) :
    l.foldl (fun acc n => insertSorted n acc) acc = acc ++ l := by
  induction l generalizing acc with
  | nil => simp
  | cons x xs ih =>
    simp only [List.foldl_cons]
    have hx : ∀ a ∈ acc, a.pitch < x.pitch := by
      intro a ha
      simp only [Inv, List.pairwise_append] at h
      exact h.2.2 a ha x (by simp)
    rw [insertSorted_at_end x acc hx]
    have := ih (acc ++ [x]) (by simpa using h)
    simpa using this

theorem sort_append (l : NC) (n : Note) (h : Inv l) : NC.sort (l ++ [n]) = insertSorted n l := by
  simp only [NC.sort, List.foldl_append, List.foldl_cons, List.foldl_nil]
  have := foldl_sorted l [] (by simpa using h)
  simp only [List.nil_append] at this
  rw [this]

theorem hasPitch_iff (l : NC) (n : Note) : hasPitch l n = true ↔ ∃ x ∈ l, x.pitch = n.pitch := by
  simp [hasPitch]

theorem addNoteObj_eq (l : NC) (n : Note) (h : Inv l) :
    addNoteObj l n = if ∃ x ∈ l, x.pitch = n.pitch then l else insertSorted n l := by
  simp only [addNoteObj, sort_append l n h, ← hasPitch_iff]

theorem addNoteObj_inv (l : NC) (n : Note) (h : Inv l) : Inv (addNoteObj l n) := by
  rw [addNoteObj_eq l n h]
  split
  · exact h
  · rename_i hp; exact insertSorted_inv n l h fun x hx e => hp ⟨x, hx, e⟩

/-- set view of adding a note object: its pitch is inserted unless already present; nothing else changes -/
theorem addNoteObj_mem (l : NC) (n : Note) (h : Inv l) (x : Note) :
    x ∈ addNoteObj l n ↔ x ∈ l ∨ (x = n ∧ ¬ ∃ y ∈ l, y.pitch = n.pitch) := by
  rw [addNoteObj_eq l n h]
  split <;> simp [mem_insertSorted, or_comm, *]

/-- removal by name removes that spelling in every octave (octave = -1) or only in the given octave; by note removes the pitch -/
theorem remove_mem (l : NC) (nm : Str) (o : Int) (n x : Note) :
    (x ∈ removeByName l nm o ↔ x ∈ l ∧ ¬ (x.name = nm ∧ (o = -1 ∨ x.octave = o))) ∧
    (x ∈ removeObj l n ↔ x ∈ l ∧ x.pitch ≠ n.pitch) := by
  constructor
  · simp only [removeByName, List.mem_filter, Bool.or_eq_true, Bool.and_eq_true, bne_iff_ne, ne_eq,
      Classical.not_and_iff_not_or_not, not_or, and_comm]
  · simp [removeObj]

inductive Op
  | add (a : AddArg)
  | addMany (as : List AddArg)
  | addContainer (as : List AddArg)      -- another container built from `as`, then added
  | removeName (nm : Str) (octave : Int)
  | removeNote (n : Note)

/-- An operation that raises leaves the container as it was.  Python's `add_notes` has by then added the notes before the
    failing one; those states are reached here as histories of single `.add`s, so `history_inv` covers them too. -/
def step (l : NC) : Op → NC
  | .add a => match addNote l a with | .ok r => r | .error _ => l
  | .addMany as => match addNotes l as with | .ok r => r | .error _ => l
  | .addContainer as => match addNotes [] as with
    | .ok other => (match addNotes l (other.map AddArg.obj) with | .ok r => r | .error _ => l)
    | .error _ => l
  | .removeName nm o => removeByName l nm o
  | .removeNote n => removeObj l n

theorem addNote_is_obj (l : NC) (a : AddArg) (r : NC) (hr : addNote l a = .ok r) : ∃ n, r = addNoteObj l n := by
  unfold addNote at hr
  repeat' split at hr
  all_goals simp only [bind_eq_ok, pure_eq_ok] at hr
  · exact ⟨_, hr.symm⟩
  · obtain ⟨n, -, rfl⟩ := hr; exact ⟨n, rfl⟩
  · obtain ⟨n, -, rfl⟩ := hr; exact ⟨n, rfl⟩
  · obtain ⟨n, -, rfl⟩ := hr; exact ⟨n, rfl⟩
  · -- a bare name above a top note: the candidate in the top note's octave, or one octave higher
    obtain ⟨cand, -, below, -, hr⟩ := hr
    split at hr
    all_goals
      simp only [bind_eq_ok, pure_eq_ok] at hr
      obtain ⟨n, -, rfl⟩ := hr; exact ⟨n, rfl⟩

theorem addNote_inv (l : NC) (a : AddArg) (h : Inv l) (r : NC) (hr : addNote l a = .ok r) : Inv r := by
  obtain ⟨n, e⟩ := addNote_is_obj l a r hr
  rw [e]; exact addNoteObj_inv l n h

theorem addNotes_inv (as : List AddArg) (l : NC) (h : Inv l) (r : NC) (hr : addNotes l as = .ok r) : Inv r :=
  foldlM_inv addNote (fun b _ => Inv b) as l r hr h fun b a _ b' _ hb hr => addNote_inv b a hb b' hr

theorem step_inv (l : NC) (op : Op) (h : Inv l) : Inv (step l op) := by
  cases op with
  | add a =>
    simp only [step]
    cases hr : addNote l a with
    | ok r => exact addNote_inv l a h r hr
    | error e => exact h
  | addMany as =>
    simp only [step]
    cases hr : addNotes l as with
    | ok r => exact addNotes_inv as l h r hr
    | error e => exact h
  | addContainer as =>
    simp only [step]
    cases h1 : addNotes [] as with
    | error e => exact h
    | ok other =>
      simp only
      cases h2 : addNotes l (other.map AddArg.obj) with
      | ok r => exact addNotes_inv _ l h r h2
      | error e => exact h
  | removeName nm o => exact h.filter _
  | removeNote n => exact h.filter _

/-- after ANY sequence of additions and removals the container is sorted low to high with no two notes of equal pitch -/
theorem history_inv (ops : List Op) : Inv (ops.foldl step []) :=
  List.foldlRecOn ops step List.Pairwise.nil fun l h op _ => step_inv l op h

def offset (n : Note) : Int := n.pitch - 12 * n.octave

/-- the arithmetic of voicing a bare name: of the candidate in the top note's octave and the same name an octave higher, the
    one taken lies at or above the top note and less than an octave above it, provided both unreduced offsets (natural +
    accidentals) lie in 0..11; `addNote_bare` (C12Chord) ties it to `add_note` -/
theorem voicing_partial (top cand : Note) (h1 : 0 ≤ offset top ∧ offset top < 12) (h2 : 0 ≤ offset cand ∧ offset cand < 12)
    (hc : cand.octave = top.octave) (up : Note) (hup : up.pitch = cand.pitch + 12) :
    let chosen := if cand.pitch < top.pitch then up else cand
    top.pitch ≤ chosen.pitch ∧ chosen.pitch < top.pitch + 12 := by
  simp only [offset] at h1 h2
  by_cases h : cand.pitch < top.pitch <;> simp [h] <;> omega

/-- full-strength voicing clause (false of the code: see the counterexample = known finding C12-bare-name-voicing) -/
def C12_voicing_full : Prop :=
  ∀ (l r : NC) (nm : Str), Inv l → addNote l (.bare nm) = .ok r → ∀ top ∈ l.getLast?, ∀ n ∈ r, n.name = nm → n ∉ l →
    top.pitch ≤ n.pitch ∧ n.pitch < top.pitch + 12

theorem voicing_counterexample : ¬ C12_voicing_full := by
  intro h
  have := h [⟨lit "C", 4, 1, 64⟩] [⟨lit "C", 4, 1, 64⟩, ⟨lit "B#", 4, 1, 64⟩] (lit "B#")
    (by simp [Inv]) (by decide +kernel) ⟨lit "C", 4, 1, 64⟩ (by simp) ⟨lit "B#", 4, 1, 64⟩ (by simp) rfl (by decide)
  revert this; decide +kernel

/-- the inner loop of `_consonance_test` is `all` -/
theorem all_foldlM (q : Note → Bool) (ys : NC) (acc : Bool) :
    ys.foldlM (fun (acc : Bool) y => if acc then (.ok (q y) : Except Err Bool) else .ok false) acc = .ok (acc && ys.all q) := by
  induction ys generalizing acc with
  | nil => simp
  | cons y t ih => cases acc <;> simp [List.foldlM_cons, ih]

theorem pairwise_spec (p : Str → Str → Bool) (l : NC) :
    pairwise (fun a b => .ok (p a b)) l = .ok (decide (l.Pairwise (fun x y => p x.name y.name = true))) := by
  induction l with
  | nil => simp [pairwise]
  | cons x xs ih =>
    simp only [pairwise, pure_ok, all_foldlM (fun y => p x.name y.name), Bool.true_and, ok_bind, ih, List.pairwise_cons]
    by_cases h : ∀ y ∈ xs, p x.name y.name = true
    · simpa [List.all_eq_true.2 h] using fun _ => h
    · simp [h, Bool.eq_false_iff.2 (mt List.all_eq_true.1 h)]

theorem eq_spec (a b : NC) : NC.eq a b = true ↔ a.length = b.length ∧ ∀ x ∈ a, ∃ y ∈ b, y.pitch = x.pitch := by
  simp [NC.eq, hasPitch]

example : addNotes [] [.bare (lit "G"), .bare (lit "C"), .named (lit "E") 3, .obj ⟨lit "Fb", 3, 1, 64⟩] =
    .ok [⟨lit "E", 3, 1, 64⟩, ⟨lit "G", 4, 1, 64⟩, ⟨lit "C", 5, 1, 64⟩] := by decide +kernel

end Mingus.Props.C12
