import Mingus.Lemmas.Chords
import Mingus.Model.Progressions
/-
  C08 — diatonic harmony: functions, numerals and substitutions denote the right chords.
  Finite tables (30 keys × 7 degrees, the alias table, the substitution cores per numeral) are evaluated whole in the
  kernel; `parse_spec`, `toChords_spec`, `minor_for_major_spec` and `major_for_minor_spec` are unbounded in the number of
  accidentals of the prefix.
-/
namespace Mingus.Props.C08
open Mingus Mingus.Notes Mingus.Keys Mingus.Intervals Mingus.Scales Mingus.Chords Mingus.Progressions

def stackOK (key : Str) : Bool :=
  match getNotes key, triads key, sevenths key with
  | .ok ns, .ok ts, .ok ss =>
    ts == (List.range 7).map (fun i => [ns.getD i [], ns.getD ((i + 2) % 7) [], ns.getD ((i + 4) % 7) []]) &&
    ss == (List.range 7).map (fun i => [ns.getD i [], ns.getD ((i + 2) % 7) [], ns.getD ((i + 4) % 7) [], ns.getD ((i + 6) % 7) []])
  | _, _, _ => false
/-- triads and sevenths are stacked thirds inside the key's notes, in all 30 keys -/
theorem stacked_thirds : ∀ k ∈ allKeys, stackOK k = true := by decide +kernel

def romanValue : List (Str × Nat) :=
  [("i", 0), ("ii", 1), ("iii", 2), ("iv", 3), ("v", 4), ("vi", 5), ("vii", 6)].map fun p => (p.1.toList, p.2)
def functionNames : List (Str × Nat) :=
  [("tonic", 0), ("supertonic", 1), ("mediant", 2), ("subdominant", 3), ("dominant", 4), ("submediant", 5), ("subtonic", 6)].map
    fun p => (p.1.toList, p.2)
/-- independent reading of a function name / numeral alias: (is a seventh chord, degree index) -/
def specFn (name : Str) : Option (Bool × Nat) :=
  let (base, sev) := if name.getLast? = some '7' then (name.dropLast, true) else (name, false)
  match functionNames.lookup base with
  | some i => some (sev, i)
  | none => (romanValue.lookup (base.map Char.toLower)).map fun i => (sev, i)
theorem aliases_index_right_row : ∀ row ∈ functionTable, specFn row.1 = some row.2 := by decide +kernel
theorem function_denotes_row (name key : Str) (sev : Bool) (i : Nat) (h : functionTable.lookup name = some (sev, i)) :
    chordFunction name key = (do
      let rows ← if sev then sevenths key else triads key
      match rows[i]? with | some r => pure r | none => throw .index) := by
  unfold chordFunction; simp only [h]; cases sev <;> rfl

def accPrefix (a : Int) : Str := if a < 0 then List.replicate (-a).toNat 'b' else List.replicate a.toNat '#'

/-- a suffix the scanner stops at -/
def SuffixOK (sf : Str) : Prop :=
  ∀ c, sf.head? = some c → c ≠ '#' ∧ c ≠ 'b' ∧ c.toUpper ≠ 'I' ∧ c.toUpper ≠ 'V'

theorem parseGo_suffix (sf : Str) (h : SuffixOK sf) (roman : Str) (acc : Int) : parseGo sf roman acc = (roman, acc, sf) := by
  cases sf with
  | nil => rfl
  | cons c t =>
    obtain ⟨h1, h2, h3, h4⟩ := h c rfl
    simp [parseGo, h1, h2, h3, h4]

theorem parseGo_replicate (c : Char) (d : Int)
    (hc : ∀ t roman acc, parseGo (c :: t) roman acc = parseGo t roman (acc + d)) (k : Nat) (rest roman : Str) (acc : Int) :
    parseGo (List.replicate k c ++ rest) roman acc = parseGo rest roman (acc + k * d) := by
  induction k generalizing acc with
  | zero => simp
  | succ k ih => rw [List.replicate_succ, List.cons_append, hc, ih, Int.natCast_succ, Int.add_mul]; congr 1; omega

theorem parseGo_accPrefix (a : Int) (rest roman : Str) (acc : Int) :
    parseGo (accPrefix a ++ rest) roman acc = parseGo rest roman (acc + a) := by
  unfold accPrefix
  split
  · rw [parseGo_replicate 'b' (-1) (fun _ _ _ => by simp [parseGo]; rfl)]; congr 1; omega
  · rw [parseGo_replicate '#' 1 (fun _ _ _ => by simp [parseGo])]; congr 1; omega

def anyCase (num : Str) : List Str := [num, num.map Char.toLower]
theorem parseGo_numeral : ∀ num ∈ numerals, ∀ w ∈ anyCase num, ∀ sf, SuffixOK sf → ∀ acc,
    parseGo (w ++ sf) [] acc = (num, acc, sf) := by
  intro num hn w hw sf hsf acc
  simp only [numerals, List.mem_cons, List.mem_nil_iff, or_false] at hn
  rcases hn with e | e | e | e | e | e | e <;> subst e <;>
    (simp only [anyCase, List.mem_cons, List.mem_nil_iff, or_false] at hw
     rcases hw with e | e <;> subst e <;>
       simp [parseGo, lit, parseGo_suffix sf hsf])

theorem parse_spec (a : Int) (num : Str) (hn : num ∈ numerals) (w : Str) (hw : w ∈ anyCase num) (sf : Str) (hsf : SuffixOK sf) :
    parseString (accPrefix a ++ w ++ sf) = (num, a, sf) := by
  rw [parseString, List.append_assoc, parseGo_accPrefix, parseGo_numeral num hn w hw sf hsf, Int.zero_add]

/-- numeral strings survive parse followed by format unchanged (prefix of up to six sharps or flats) -/
theorem parse_format_id (a : Int) (ha : -6 ≤ a ∧ a ≤ 6) (num : Str) (hn : num ∈ numerals) (sf : Str) (hsf : SuffixOK sf) :
    (let p := parseString (accPrefix a ++ num ++ sf); tupleToString p.1 p.2.1 p.2.2) = accPrefix a ++ num ++ sf := by
  rw [parse_spec a num hn num (by simp [anyCase]) sf hsf]
  have h1 : ¬ a > 6 := by omega
  have h2 : ¬ a < -6 := by omega
  simp only [tupleToString, h1, h2, if_false, accPrefix]

def shift (a : Int) (r : List Str) : List Str :=
  if a < 0 then r.map (iter diminish (-a).toNat) else r.map (iter augment a.toNat)
/-- under the accidental prefix each chord note has an image in the shifted chord, one semitone per accidental away on the
    same letter -/
theorem shift_spec (a : Int) (n : Str) (l : Char) (p : Int) (h : Good n l p) (r : List Str) (hn : n ∈ r) :
    ∃ m ∈ shift a r, Good m l ((p + a) % 12) := by
  unfold shift
  split
  · next ha =>
    exact ⟨_, List.mem_map_of_mem hn,
      (iter_good diminish (-1) (fun h => h.diminish.congr (by omega)) _ h).congr (by omega)⟩
  · exact ⟨_, List.mem_map_of_mem hn, (iter_good augment 1 Good.augment _ h).congr (by omega)⟩

/-- what a progression string denotes: plain or '7' → the function's chord, any other known suffix → that chord type
    rebuilt on the degree's root; then shifted by the prefix.  Any key, any prefix length, either case. -/
theorem toChords_spec (a : Int) (num : Str) (hn : num ∈ numerals) (w : Str) (hw : w ∈ anyCase num) (sf : Str)
    (hsf : SuffixOK sf) (key : Str) :
    toChordsOne (accPrefix a ++ w ++ sf) key =
      (if sf = lit "7" ∨ sf = [] then (chordFunction (num ++ sf) key).map (fun r => some (shift a r))
       else do
         let base ← chordFunction num key
         match base.head?, chordShorthand.lookup sf with
         | _, none => throw .key
         | none, _ => throw .index
         | some r0, some es => (evalBuilder es r0).map (fun r => some (shift a r))) := by
  have hc : numerals.contains num = true := by simpa using hn
  unfold toChordsOne
  rw [parse_spec a num hn w hw sf hsf]
  simp only [hc, Bool.not_true, Bool.false_eq_true, if_false, shift]
  split
  · rfl
  · cases chordFunction num key with
    | error e => rfl
    | ok base => cases base.head? <;> cases chordShorthand.lookup sf <;> rfl

/-- an unrecognised numeral at the head of the progression gives the documented empty answer -/
theorem unrecognised_numeral (x key : Str) (rest : List Str) (h : numerals.contains (parseString x).1 = false) :
    toChords (x :: rest) key = .ok [] := by
  have h' : ¬ (parseString x).1 ∈ numerals := by simpa using h
  simp [toChords, toChords.go, toChordsOne, h']

def shortNumerals : List Str := ["I", "ii", "iii", "IV", "V", "vi", "vii"].map String.toList
def inverseOK (key : Str) (i : Nat) (sev : Bool) : Bool :=
  match (if sev then sevenths key else triads key) with
  | .ok rows =>
    let ch := rows.getD i []
    let fname := functionNames.map (·.1) |>.getD i []
    let num := shortNumerals.getD i []
    (match Progressions.determine ch key false with
     | .ok r => r.contains (if sev then fname ++ lit " seventh" else fname)
     | _ => false) &&
    (match Progressions.determine ch key true with
     | .ok r => r.contains (if sev then num ++ lit "7" else num) &&
         toChords [if sev then num ++ lit "7" else num] key == .ok [ch]
     | _ => false)
  | _ => false
/-- `determine` is the inverse of `to_chords` on diatonic harmony (15 major keys × 7 degrees × {triad, seventh}) -/
theorem determine_inverse : ∀ k ∈ majorKeys, ∀ i ∈ List.range 7, ∀ sev ∈ [false, true], inverseOK k i sev = true := by
  decide +kernel

def semiBase (num : Str) : Int :=
  match numerals.findIdx? (· == num) with
  | some i => numeralIntervals.getD i 0
  | none => -1000
/-- semitones above the tonic denoted by numeral + accidentals -/
def semi (num : Str) (a : Int) : Int := (semiBase num + a) % 12

/-- cores of the rules, per numeral: the substitute numeral and its accidental offset (whole table) -/
def coreOK (k : Nat) (iv : Int) (r : Str) : Bool :=
  match skip r k with
  | .ok n => (match intervalDiff r n iv with
    | .ok d => numerals.contains n && (semiBase n + d - semiBase r) % 12 == iv
    | _ => false)
  | _ => false
theorem minor_for_major_core : ∀ r ∈ numerals, coreOK 2 3 r = true := by decide +kernel
theorem major_for_minor_core : ∀ r ∈ numerals, coreOK 5 9 r = true := by decide +kernel

theorem core_unpack (k : Nat) (iv : Int) (r : Str) (h : coreOK k iv r = true) :
    ∃ n d, skip r k = .ok n ∧ intervalDiff r n iv = .ok d ∧ n ∈ numerals ∧
      ∀ a : Int, semi n (d + a) = (semi r a + iv) % 12 := by
  unfold coreOK at h
  split at h
  · rename_i n hn
    split at h
    · rename_i d hd
      simp only [Bool.and_eq_true, beq_iff_eq, List.contains_iff_mem] at h
      exact ⟨n, d, hn, hd, h.1, fun a => by simp only [semi]; omega⟩
    · cases h
  · cases h

/-- minor-for-major: for `<prefix><numeral>m` the substitute is `tuple_to_string` of a major chord a minor third above
    (the string itself denotes it only while the accidental count `d + a` stays within ±6), any prefix length -/
theorem minor_for_major_spec (a : Int) (num : Str) (hn : num ∈ numerals) (ig : Bool) :
    ∃ n d, substituteMinorForMajor (accPrefix a ++ num ++ lit "m") ig = .ok [tupleToString n (d + a) (lit "M")] ∧
      n ∈ numerals ∧ semi n (d + a) = (semi num a + 3) % 12 := by
  obtain ⟨n, d, h1, h2, h3, h6⟩ := core_unpack 2 3 num (minor_for_major_core num hn)
  refine ⟨n, d, ?_, h3, h6 a⟩
  unfold substituteMinorForMajor
  rw [parse_spec a num hn num (by simp [anyCase]) (lit "m") (by intro c hc; simp [lit] at hc; subst hc; decide)]
  simp [h1, h2]

theorem major_for_minor_spec (a : Int) (num : Str) (hn : num ∈ numerals) (ig : Bool) :
    ∃ n d, substituteMajorForMinor (accPrefix a ++ num ++ lit "M") ig = .ok [tupleToString n (d + a) (lit "m")] ∧
      n ∈ numerals ∧ semi n (d + a) = (semi num a + 9) % 12 := by
  obtain ⟨n, d, h1, h2, h3, h6⟩ := core_unpack 5 9 num (major_for_minor_core num hn)
  refine ⟨n, d, ?_, h3, h6 a⟩
  unfold substituteMajorForMinor
  rw [parse_spec a num hn num (by simp [anyCase]) (lit "M") (by intro c hc; simp [lit] at hc; subst hc; decide)]
  simp [h1, h2]

/-- diminished substitutes cycle by minor thirds: per numeral, the three substitutes of `<numeral>dim` lie 3, 6 and 9
    semitones above it, read back through `parse_string` (prefix-free inputs; whole numeral table) -/
def dimCycleOK (num : Str) : Bool :=
  match substituteDimForDim (num ++ lit "dim") false with
  | .ok [x, y, z] =>
    let sx := parseString x; let sy := parseString y; let sz := parseString z
    numerals.contains sx.1 && numerals.contains sy.1 && numerals.contains sz.1 &&
    semi sx.1 sx.2.1 == (semi num 0 + 3) % 12 && semi sy.1 sy.2.1 == (semi num 0 + 6) % 12 &&
    semi sz.1 sz.2.1 == (semi num 0 + 9) % 12 &&
    sx.2.2 == lit "dim" && sy.2.2 == lit "dim" && sz.2.2 == lit "dim"
  | _ => false
theorem dim_cycle : ∀ num ∈ numerals, dimCycleOK num = true := by decide +kernel

/-- harmonic substitutes share two notes with the original triad (15 major keys × 7 numerals) -/
def harmonicOK (key num : Str) : Bool :=
  match substituteHarmonic num false, toChords [num] key with
  | .ok subs, .ok [orig] =>
    subs.all fun sub => match toChords [sub] key with
      | .ok [ch] => (orig.filter ch.contains).length ≥ 2
      | _ => false
  | _, _ => false
theorem harmonic_share_two : ∀ k ∈ majorKeys, ∀ num ∈ numerals, harmonicOK k num = true := by decide +kernel

/-- every output of every rule on every plain numeral, numeral7, numeral-m/M/dim/dim7 parses back to a numeral -/
def outputsWellFormed (p : Str) : Bool :=
  let ok := fun (r : Except Err (List Str)) => match r with
    | .ok l => l.all fun x => numerals.contains (parseString x).1
    | _ => false
  ok (substituteHarmonic p false) && ok (substituteMinorForMajor p false) && ok (substituteMajorForMinor p false) &&
  ok (substituteDimForDim p false) && ok (substituteDimForDom p false) && ok (substituteHarmonic p true) &&
  ok (substituteMinorForMajor p true) && ok (substituteMajorForMinor p true) && ok (substituteDimForDim p true) &&
  ok (substituteDimForDom p true) && ok (substitute 1 p)
def ruleSuffixes : List Str := ["", "7", "m", "M", "m7", "M7", "dim", "dim7"].map String.toList
theorem outputs_well_formed : ∀ num ∈ numerals, ∀ sf ∈ ruleSuffixes, ∀ a ∈ [(-2 : Int), -1, 0, 1, 2],
    outputsWellFormed (accPrefix a ++ num ++ sf) = true := by decide +kernel

def DocMinor (p : Str) : Prop :=
  (parseString p).2.2 = lit "m" ∨ (parseString p).2.2 = lit "m7" ∨
    ((parseString p).2.2 = [] ∧ [lit "II", lit "III", lit "VI"].contains (parseString p).1)
def DocMajor (p : Str) : Prop :=
  (parseString p).2.2 = lit "M" ∨ (parseString p).2.2 = lit "M7" ∨
    ((parseString p).2.2 = [] ∧ [lit "I", lit "IV", lit "V"].contains (parseString p).1)
def DocDim (p : Str) : Prop :=
  (parseString p).2.2 = lit "dim7" ∨ (parseString p).2.2 = lit "dim" ∨ ((parseString p).2.2 = [] ∧ (parseString p).1 = lit "VII")
def DocHarmonic (p : Str) : Prop := (parseString p).2.2 = [] ∨ (parseString p).2.2 = lit "7"

/-- each rule answers only for the chords it documents (ignore_suffix off): for EVERY string, outside the documented
    suffixes / unsuffixed degrees the answer is the empty list -/
theorem minor_for_major_only_documented (p : Str) (h : ¬ DocMinor p) : substituteMinorForMajor p false = .ok [] := by
  simp only [substituteMinorForMajor, Bool.false_eq_true, or_false]
  exact if_neg h
theorem major_for_minor_only_documented (p : Str) (h : ¬ DocMajor p) : substituteMajorForMinor p false = .ok [] := by
  simp only [substituteMajorForMinor, Bool.false_eq_true, or_false]
  exact if_neg h
theorem dimGuard_false (p : Str) (h : ¬ DocDim p) : dimGuard (parseString p).1 (parseString p).2.2 false = false := by
  simp only [dimGuard, Bool.false_eq_true, or_false, decide_eq_false_iff_not]
  exact h
theorem dim_for_dim_only_documented (p : Str) (h : ¬ DocDim p) : substituteDimForDim p false = .ok [] := by
  simp only [substituteDimForDim, dimGuard_false p h, Bool.false_eq_true, if_false]; rfl
theorem dim_for_dom_only_documented (p : Str) (h : ¬ DocDim p) : substituteDimForDom p false = .ok [] := by
  simp only [substituteDimForDom, dimGuard_false p h, Bool.false_eq_true, if_false]; rfl
theorem harmonic_only_documented (p : Str) (h : ¬ DocHarmonic p) : substituteHarmonic p false = .ok [] := by
  simp only [substituteHarmonic, Bool.false_eq_true, or_false]
  exact if_neg h
example : ¬ DocDim (lit "V") ∧ DocDim (lit "VII") ∧ DocDim (lit "bIIdim7") ∧ ¬ DocMinor (lit "IVM7") ∧ DocMinor (lit "Vm7") := by
  unfold DocDim DocMinor; decide +kernel

example : toChords [lit "bbVIIdim7", lit "iim7"] (lit "Eb") =
    .ok [["Dbb", "Fbb", "Abbb", "Cbbb"].map String.toList, ["F", "Ab", "C", "Eb"].map String.toList] := by decide +kernel
example : Progressions.determine (["G", "B", "D", "F"].map String.toList) (lit "C") true = .ok [lit "V7"] := by decide +kernel
example : substituteMinorForMajor (lit "bIIm") false = .ok [lit "bIVM"] := by decide +kernel

end Mingus.Props.C08
