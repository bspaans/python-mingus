import Mingus.Lemmas.Intervals
/-
  C03 — interval naming and interval shorthand are mutually inverse.
  Unbounded: `fromShorthand_spec` (any accidentals on the note and in the shorthand), `up_down` (a canonical name, at most
  five accidentals between it and the shorthand; `up_down_id` is its instance), `determine_eq` (what `determine` answers
  on any two valid names at most an octave apart along their letters; `determine_names` is its instance) and
  `determine_roundtrip` (canonical names at most an octave apart, at most four accidentals on the first;
  `determine_fromShorthand` is its instance).
-/
namespace Mingus.Props.C03
open Mingus Mingus.Notes Mingus.Keys Mingus.Intervals

def majorSize : List Int := [0, 2, 4, 5, 7, 9, 11]
def numberName : List Str := ["unison", "second", "third", "fourth", "fifth", "sixth", "seventh"].map String.toList
def letterIdx (l : Char) : Nat := baseScale.idxOf l
def letterDist (l1 l2 : Char) : Nat := (letterIdx l2 + 7 - letterIdx l1) % 7
/-- ascending distance from the first to the second name counted along the letters they span -/
def spanDist (a b : Str) : Int :=
  match a, b with
  | l1 :: t1, l2 :: t2 =>
    let nat := if l1 = l2 then 0 else (((natural? l2).getD 0) - ((natural? l1).getD 0)) % 12
    nat + accVal t2 - accVal t1
  | _, _ => -1
def qualityName (ld : Nat) (off : Int) : Str :=
  if off = 0 then (if ld = 3 ∨ ld = 4 then lit "perfect" else lit "major")
  else if off = -1 then lit "minor" else if off < -1 then lit "diminished" else lit "augmented"
def specLong (a b : Str) : Str :=
  let ld := letterDist (a.headD 'C') (b.headD 'C')
  qualityName ld (spanDist a b - majorSize.getD ld 0) ++ lit " " ++ numberName.getD ld []

def canonNames (k : Nat) : List Str :=
  baseScale.flatMap fun l => ((List.range (2 * k + 1)).map fun (i : Nat) => rep l ((i : Int) - (k : Int)))
def accPrefixes : List Str := [[], ['#'], ['b'], ['#', '#'], ['b', 'b']]
def digits : List Char := ['1', '2', '3', '4', '5', '6', '7']
def shorthands : List Str := accPrefixes.flatMap fun a => digits.map fun d => a ++ [d]

theorem digit_ne_acc {d : Char} (hd : d ∈ digits) : d ≠ '#' ∧ d ≠ 'b' :=
  (by decide : ∀ d ∈ digits, d ≠ '#' ∧ d ≠ 'b') d hd

theorem mem_canonNames {k : Nat} {a : Str} (h : a ∈ canonNames k) :
    ∃ l ∈ baseScale, ∃ v : Int, v.natAbs ≤ k ∧ a = rep l v := by
  simp only [canonNames, List.mem_flatMap, List.mem_map, List.mem_range] at h
  obtain ⟨l, hl, i, hi, rfl⟩ := h
  exact ⟨l, hl, _, by omega, rfl⟩

def namingOK (a b : Str) : Bool :=
  let d := spanDist a b
  if 0 ≤ d ∧ d ≤ 11 then determine a b false == .ok (specLong a b) else true

def roundtripOK (a b : Str) : Bool :=
  let d := spanDist a b
  if 0 ≤ d ∧ d ≤ 11 then
    match determine a b true with
    | .ok sh => (match fromShorthand a sh true with | .ok (.str r) => r == b | _ => false)
    | _ => false
  else true

/-- the accidental loop of `from_shorthand`, for any quantity `q` that `augment` raises and `diminish` lowers by one:
    '#' moves it in the direction of travel, 'b' against it -/
theorem collect_track {P : Str → Int → Prop} (haug : ∀ {n q}, P n q → P (augment n) (q + 1))
    (hdim : ∀ {n q}, P n q → P (diminish n) (q - 1)) (up : Bool) (a : Str) (ha : a.all isAcc = true)
    (d : Char) (hd : d ≠ '#' ∧ d ≠ 'b') {n : Str} {q : Int} (h : P n q) :
    ∃ r, collect up (a ++ [d]) n = some r ∧ P r (q + (if up then accVal a else - accVal a)) := by
  induction a generalizing n q with
  | nil => exact ⟨n, by simp [collect, hd], by cases up <;> simpa using h⟩
  | cons x xs ih =>
    rw [List.all_cons, Bool.and_eq_true] at ha
    obtain ⟨m, e, hc, hm, he⟩ : ∃ m e, collect up (x :: xs ++ [d]) n = collect up (xs ++ [d]) m ∧ P m (q + e) ∧
        e = if up then accOf x else - accOf x := by
      rcases isAcc_iff.1 ha.1 with rfl | rfl <;> cases up
      · exact ⟨_, -1, rfl, hdim h, rfl⟩
      · exact ⟨_, 1, rfl, haug h, rfl⟩
      · exact ⟨_, 1, rfl, haug h, rfl⟩
      · exact ⟨_, -1, rfl, hdim h, rfl⟩
    obtain ⟨r, h1, h2⟩ := ih ha.2 hm
    refine ⟨r, hc ▸ h1, ?_⟩
    have : q + e + (if up then accVal xs else - accVal xs) = q + (if up then accVal (x :: xs) else - accVal (x :: xs)) := by
      rw [accVal_cons, he]; cases up <;> simp <;> omega
    exact this ▸ h2

/-- per digit: (letters up, semitones up, letters "up" when going down, semitones when going down) -/
def digitRow : Char → Option (Nat × Int × Nat × Int)
  | '1' => some (0, 0, 0, 0) | '2' => some (1, 2, 6, 10) | '3' => some (2, 4, 5, 8) | '4' => some (3, 5, 4, 7)
  | '5' => some (4, 7, 3, 5) | '6' => some (5, 9, 2, 3) | '7' => some (6, 11, 1, 1) | _ => none

theorem digitRow_complement : ∀ d ∈ digits, ∀ r, digitRow d = some r →
    (r.1 + r.2.2.1) % 7 = 0 ∧ (r.2.1 + r.2.2.2) % 12 = 0 ∧ r.2.1 = majorSize.getD r.1 0 ∧
    (r.1 : Int) = (d.toNat : Int) - 49 := by decide

def base (d : Char) (up : Bool) (n : Str) : Option (Except Err Str) :=
  match shorthandLookup.find? (fun r => r.1 == d) with
  | none => none
  | some (_, u, dn) => ctorByName (if up then u else dn) n

theorem base_eq {d : Char} (hd : d ∈ digits) (up : Bool) (n : Str) :
    ∃ row, digitRow d = some row ∧ (if up then row.1 else row.2.2.1) < 7 ∧
      (0 ≤ (if up then row.2.1 else row.2.2.2) ∧ (if up then row.2.1 else row.2.2.2) < 12) ∧
      base d up n = some (if d = '1' then .ok n
        else ctor (if up then row.1 else row.2.2.1) (if up then row.2.1 else row.2.2.2) n) := by
  simp only [digits, List.mem_cons, List.mem_nil_iff, or_false] at hd
  rcases hd with rfl | rfl | rfl | rfl | rfl | rfl | rfl <;> cases up <;>
    exact ⟨_, rfl, by decide, by decide, rfl⟩

theorem fromShorthand_of_base {n a v r : Str} {d : Char} {up : Bool} (hv : valid n = true)
    (hb : base d up n = some (.ok v)) (hc : collect up (a ++ [d]) v = some r) :
    fromShorthand n (a ++ [d]) up = .ok (.str r) := by
  obtain ⟨l, t, rfl⟩ := exists_cons_of_valid hv
  unfold base at hb
  simp only [fromShorthand, hv, Bool.not_true, Bool.false_eq_true, if_false, List.getLast?_concat]
  split at hb
  · cases hb
  · rename_i e; simp only [e, hb, hc]; rfl

/-- `w = v`: the unison digit hands the name back as it is -/
theorem base_good {d : Char} (hd : d ∈ digits) (up : Bool) {n : Str} {l : Char} {p : Int} (h : Scales.Good n l p) :
    ∃ row r0, digitRow d = some row ∧ base d up n = some (.ok r0) ∧
      Scales.Good r0 (letterUp l (if up then row.1 else row.2.2.1)) ((p + (if up then row.2.1 else row.2.2.2)) % 12) ∧
      ∀ v, n = rep l v → ∃ w, r0 = rep (letterUp l (if up then row.1 else row.2.2.1)) w ∧ (w = v ∨ -6 ≤ w ∧ w ≤ 6) := by
  obtain ⟨row, hrow, hk, hs, hb⟩ := base_eq hd up n
  by_cases h1 : d = '1'
  · subst h1; cases hrow
    have := h.range
    refine ⟨_, n, rfl, hb, ?_, fun v hv => ⟨v, ?_, .inl rfl⟩⟩
    · cases up <;> simpa [letterUp_zero h.letter] using h.congr (by omega)
    · cases up <;> simpa [letterUp_zero h.letter] using hv
  · obtain ⟨w, hc, hw1, hw2, hw⟩ := ctor_closed _ hk _ hs h
    exact ⟨row, _, hrow, by rw [hb, if_neg h1, hc], (Scales.good_rep (letterUp_isLetter _ _) w).congr hw,
      fun v _ => ⟨w, rfl, .inr ⟨hw1, hw2⟩⟩⟩

/-- any valid note (any accidentals), any accidental string `a`, any degree digit:
    the result is on the right letter, exactly (major size + sharps − flats) semitones above (up) or below (down). -/
theorem fromShorthand_spec (l : Char) (t : Str) (hv : valid (l :: t) = true) (a : Str) (ha : a.all isAcc = true)
    (d : Char) (hd : d ∈ digits) (up : Bool) :
    ∃ r row, digitRow d = some row ∧ fromShorthand (l :: t) (a ++ [d]) up = .ok (.str r) ∧ valid r = true ∧
      r.head? = some (letterUp l (if up then row.1 else row.2.2.1)) ∧
      pc r = (pc (l :: t) + (if up then row.2.1 + accVal a else row.2.2.2 - accVal a)) % 12 := by
  obtain ⟨row, r0, hrow, hb0, hg0, -⟩ := base_good hd up (Scales.good_of_valid l t hv)
  obtain ⟨r, hc, hr⟩ := collect_track
    (P := fun n q => Scales.Good n (letterUp l (if up then row.1 else row.2.2.1)) (q % 12))
    (fun h => h.augment.congr (by omega)) (fun h => h.diminish.congr (by omega)) up a ha d (digit_ne_acc hd)
    (hg0.congr (Int.emod_emod_of_dvd _ (Int.dvd_refl 12)).symm)
  refine ⟨r, row, hrow, fromShorthand_of_base hv hb0 hc, hr.1, hr.2.1, ?_⟩
  rw [hr.2.2]
  cases up <;> simp <;> omega

/-- `w` is the count the base constructor returns: `v` itself (the unison digit) or within ±6 -/
theorem fromShorthand_rep {l : Char} (hl : isLetter l = true) (v : Int) (a : Str) (ha : a.all isAcc = true)
    {d : Char} (hd : d ∈ digits) (up : Bool) :
    ∃ row w, digitRow d = some row ∧
      fromShorthand (rep l v) (a ++ [d]) up =
        .ok (.str (rep (letterUp l (if up then row.1 else row.2.2.1)) (w + (if up then accVal a else - accVal a)))) ∧
      (w = v ∨ -6 ≤ w ∧ w ≤ 6) ∧
      pc (rep (letterUp l (if up then row.1 else row.2.2.1)) w) =
        (pc (rep l v) + (if up then row.2.1 else row.2.2.2)) % 12 := by
  obtain ⟨row, r0, hrow, hb0, hg0, hcl⟩ := base_good hd up (Scales.good_rep hl v)
  obtain ⟨w, rfl, hw⟩ := hcl v rfl
  have hl' := letterUp_isLetter l (if up then row.1 else row.2.2.1)
  obtain ⟨r, hc, rfl⟩ := collect_track (P := fun n q => n = rep (letterUp l (if up then row.1 else row.2.2.1)) q)
    (fun h => h ▸ augment_rep _ (letter_ne_b hl') _) (fun h => h ▸ diminish_rep _ (letter_ne_sharp hl') _)
    up a ha d (digit_ne_acc hd) rfl
  exact ⟨row, w, hrow, fromShorthand_of_base (valid_rep hl v) hb0 hc, hw, hg0.2.2⟩

theorem fifths_findIdx : ∀ l ∈ baseScale, fifths.findIdx? (· == l) = some (fifths.idxOf l) := by decide

/-- the row of `fifth_steps` that `determine` reaches from two different letters is the row of their letter distance -/
theorem fifthSteps_row : ∀ l1 ∈ baseScale, ∀ l2 ∈ baseScale, l1 ≠ l2 →
    fifthSteps.getD (if fifths.idxOf l2 < fifths.idxOf l1 then fifths.length - fifths.idxOf l1 + fifths.idxOf l2
        else fifths.idxOf l2 - fifths.idxOf l1) ([], [], 0) =
      (numberName.getD (letterDist l1 l2) [], [digits.getD (letterDist l1 l2) '1'], majorSize.getD (letterDist l1 l2) 0) := by
  decide

theorem major_name : ∀ ld ∈ List.range 7,
    (if numberName.getD ld [] = lit "fifth" then lit "perfect fifth"
      else if numberName.getD ld [] = lit "fourth" then lit "perfect fourth" else lit "major " ++ numberName.getD ld []) =
      qualityName ld 0 ++ lit " " ++ numberName.getD ld [] := by decide

/-- `determine` on two valid names (any accidentals) at most an octave apart along their letters: the long name is the
    specification's, the shorthand is the offset to the major size written in sharps or flats in front of the digit -/
theorem determine_eq (l1 : Char) (t1 : Str) (l2 : Char) (t2 : Str) (h1 : valid (l1 :: t1) = true)
    (h2 : valid (l2 :: t2) = true)
    (hd : 0 ≤ spanDist (l1 :: t1) (l2 :: t2) ∧ spanDist (l1 :: t1) (l2 :: t2) ≤ 11) (short : Bool) :
    determine (l1 :: t1) (l2 :: t2) short = .ok (if short then
        accRun '#' 'b' (spanDist (l1 :: t1) (l2 :: t2) - majorSize.getD (letterDist l1 l2) 0) ++
          [digits.getD (letterDist l1 l2) '1']
      else specLong (l1 :: t1) (l2 :: t2)) := by
  by_cases h : l1 = l2
  · -- same letter: a span of 0..11 leaves the major and the augmented unison
    subst h
    have hld : letterDist l1 l1 = 0 := by unfold letterDist; omega
    simp only [spanDist, if_true, Int.zero_add] at hd
    simp only [determine, specLong, spanDist, hld, if_true, List.headD_cons, Int.zero_add,
      show majorSize.getD 0 0 = 0 from rfl, Int.sub_zero]
    split
    · rw [show accVal t2 - accVal t1 = 0 by omega]
      cases short <;> rfl
    · simp (disch := omega) only [qualityName, accRun, if_pos, if_neg]
      cases short <;> rfl
  · have m1 := mem_baseScale (valid_cons.1 h1).1
    have m2 := mem_baseScale (valid_cons.1 h2).1
    -- within the octave the measured semitones are the span
    have hm : measureP (l1 :: t1) (l2 :: t2) = spanDist (l1 :: t1) (l2 :: t2) := by
      simp only [spanDist, if_neg h] at hd ⊢
      rw [measureP_eq, pc_cons, pc_cons]; omega
    simp only [determine, if_neg h, fifths_findIdx l1 m1, fifths_findIdx l2 m2, measure_valid _ _ h1 h2, ok_bind, pure_ok,
      fifthSteps_row l1 m1 l2 m2 h, hm, specLong, List.headD_cons]
    have hq := major_name (letterDist l1 l2) (List.mem_range.2 (Nat.mod_lt _ (by decide)))
    generalize spanDist (l1 :: t1) (l2 :: t2) = s
    generalize majorSize.getD (letterDist l1 l2) 0 = mj
    split
    · subst mj
      rw [Int.sub_self, ← hq]
      cases short
      · simp only [Bool.false_eq_true, if_false, apply_ite Except.ok]
      · rfl
    · split
      · simp (disch := omega) only [qualityName, accRun, if_pos, if_neg]
        rfl
      · split
        · rw [show s - mj = -1 by omega]
          cases short <;> rfl
        · rw [show mj - s = -(s - mj) by omega]
          simp (disch := omega) only [qualityName, accRun, if_pos, if_neg]
          rfl

theorem naming_valid {a b : Str} (ha : valid a = true) (hb : valid b = true) : namingOK a b = true := by
  obtain ⟨l1, t1, rfl⟩ := exists_cons_of_valid ha
  obtain ⟨l2, t2, rfl⟩ := exists_cons_of_valid hb
  simp only [namingOK]
  split
  · rw [determine_eq l1 t1 l2 t2 ha hb ‹_› false]; exact beq_self_eq_true _
  · rfl

/-- `determine` names the interval: number from the letters, quality from the semitone offset -/
theorem determine_names : ∀ a ∈ canonNames 2, ∀ b ∈ canonNames 2, namingOK a b = true := by
  intro a ha b hb
  obtain ⟨l1, m1, v1, -, rfl⟩ := mem_canonNames ha
  obtain ⟨l2, m2, v2, -, rfl⟩ := mem_canonNames hb
  exact naming_valid (valid_rep (isLetter_of_mem m1) v1) (valid_rep (isLetter_of_mem m2) v2)

theorem digit_row : ∀ l1 ∈ baseScale, ∀ l2 ∈ baseScale, digits.getD (letterDist l1 l2) '1' ∈ digits ∧
    ∀ r, digitRow (digits.getD (letterDist l1 l2) '1') = some r →
      letterUp l1 r.1 = l2 ∧ r.2.1 = majorSize.getD (letterDist l1 l2) 0 ∧
      ((if l1 = l2 then 0 else ((natural? l2).getD 0 - (natural? l1).getD 0) % 12) - r.2.1).natAbs ≤ 1 := by decide

/-- on canonical names at most an octave apart along their letters the shorthand `determine` returns, applied upward,
    gives the second name back: the count the constructor returns is within ±6 and right mod 12, the first name has at
    most four accidentals -/
theorem determine_roundtrip {l1 l2 : Char} (m1 : l1 ∈ baseScale) (m2 : l2 ∈ baseScale) (v1 v2 : Int) (hv : v1.natAbs ≤ 4)
    (hd : 0 ≤ spanDist (rep l1 v1) (rep l2 v2) ∧ spanDist (rep l1 v1) (rep l2 v2) ≤ 11) :
    ∃ sh, determine (rep l1 v1) (rep l2 v2) true = .ok sh ∧
      fromShorthand (rep l1 v1) sh true = .ok (.str (rep l2 v2)) := by
  have hl := isLetter_of_mem m1
  have e : determine (rep l1 v1) (rep l2 v2) true = .ok (accRun '#' 'b' (spanDist (rep l1 v1) (rep l2 v2) -
      majorSize.getD (letterDist l1 l2) 0) ++ [digits.getD (letterDist l1 l2) '1']) :=
    determine_eq l1 _ l2 _ (valid_rep hl v1) (valid_rep (isLetter_of_mem m2) v2) hd true
  refine ⟨_, e, ?_⟩
  obtain ⟨hdg, hrow⟩ := digit_row l1 m1 l2 m2
  obtain ⟨row, w, hr, hf, hw, hp⟩ := fromShorthand_rep hl v1 (accRun '#' 'b' (spanDist (rep l1 v1) (rep l2 v2) -
    majorSize.getD (letterDist l1 l2) 0)) (valid_cons.1 (valid_rep hl _)).2 hdg true
  obtain ⟨hL, hmj, hn⟩ := hrow row hr
  simp only [if_true] at hf hp
  rw [hf, hL, accVal_accRun]
  congr 3
  rw [hL, pc_rep, pc_rep] at hp
  simp only [spanDist, rep_eq, accVal_accRun] at hd ⊢
  rw [← hmj]
  by_cases h : l1 = l2
  · subst h; simp only [if_true] at hd hn ⊢; omega
  · simp only [if_neg h] at hd hn ⊢; omega

theorem determine_fromShorthand : ∀ a ∈ canonNames 2, ∀ b ∈ canonNames 2, roundtripOK a b = true := by
  intro a ha b hb
  obtain ⟨l1, m1, v1, h1, rfl⟩ := mem_canonNames ha
  obtain ⟨l2, m2, v2, -, rfl⟩ := mem_canonNames hb
  simp only [roundtripOK]
  by_cases hd : 0 ≤ spanDist (rep l1 v1) (rep l2 v2) ∧ spanDist (rep l1 v1) (rep l2 v2) ≤ 11
  · obtain ⟨sh, e1, e2⟩ := determine_roundtrip m1 m2 v1 v2 (by omega) hd
    simp only [if_pos hd, e1, e2, beq_self_eq_true]
  · rw [if_neg hd]

def updownOK (n sh : Str) : Bool :=
  match fromShorthand n sh true with
  | .ok (.str u) => (match fromShorthand u sh false with | .ok (.str r) => r == n | _ => false)
  | _ => false

/-- with at most five accidentals between name and shorthand the > 6 re-spelling of either pass leaves up-then-down the
    identity -/
theorem up_down {l : Char} (hl : l ∈ baseScale) (v : Int) (a : Str) (ha : a.all isAcc = true) {d : Char} (hd : d ∈ digits)
    (hb : v.natAbs + (accVal a).natAbs ≤ 5) :
    ∃ u, fromShorthand (rep l v) (a ++ [d]) true = .ok (.str u) ∧
      fromShorthand u (a ++ [d]) false = .ok (.str (rep l v)) := by
  have hlet := isLetter_of_mem hl
  obtain ⟨row, w1, hrow, h1, hw1⟩ := fromShorthand_rep hlet v a ha hd true
  obtain ⟨row', w2, hrow', h2, hw2⟩ :=
    fromShorthand_rep (letterUp_isLetter l row.1) (w1 + accVal a) a ha hd false
  obtain rfl : row = row' := Option.some.inj (hrow.symm.trans hrow')
  have hback : letterUp (letterUp l row.1) row.2.2.1 = l :=
    (by decide : ∀ l ∈ baseScale, ∀ d ∈ digits, ∀ r, digitRow d = some r → letterUp (letterUp l r.1) r.2.2.1 = l)
      l hl d hd row hrow
  have hsum := (digitRow_complement d hd row hrow).2.1
  simp only [if_true, Bool.false_eq_true, if_false] at h1 h2 hw1 hw2
  refine ⟨_, h1, ?_⟩
  rw [h2, hback]
  congr 3
  -- each correction is the count it met or lies in -6..6; the two cancel mod 12 (`hsum`), and under the bound `hb` the
  -- congruence is an equality
  simp only [pc_rep, hback] at hw1 hw2
  omega

theorem up_down_id : ∀ n ∈ canonNames 3, ∀ sh ∈ shorthands, updownOK n sh = true := by
  intro n hn sh hsh
  obtain ⟨l, hl, v, hv, rfl⟩ := mem_canonNames hn
  simp only [shorthands, List.mem_flatMap, List.mem_map] at hsh
  obtain ⟨a, ha, d, hd, rfl⟩ := hsh
  have hacc := (by decide : ∀ a ∈ accPrefixes, a.all isAcc = true ∧ (accVal a).natAbs ≤ 2) a ha
  obtain ⟨u, h1, h2⟩ := up_down hl v a hacc.1 hd (by omega)
  simp [updownOK, h1, h2]

/-- beyond the property's domain (names up to double accidentals) the identity stops: with four sharps and a doubly
    augmented fifth the way back is corrected by six flats, which the > 6 normalisation leaves alone, where six sharps
    were needed (`A####` → `E######` → `Abbbbbbbb`) -/
theorem up_down_limit : updownOK (lit "A####") (lit "##5") = false := by decide +kernel

theorem invert_spec (l : List Str) : (invert l).1 = l.reverse ∧ (invert l).2 = l := by
  simp [invert]

example : shorthands.length = 35 ∧ (canonNames 2).length = 35 := by decide +kernel
example : determine (lit "C") (lit "C##") true = .ok (lit "##1") := by decide +kernel
example : (match fromShorthand (lit "Cb#b") (lit "bb7") false with | .ok (.str r) => r == lit "D" | _ => false) = true := by
  decide +kernel

end Mingus.Props.C03
