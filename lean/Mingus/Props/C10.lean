import Mingus.Lemmas.Note
/-
  C10 — a Note is a totally ordered pitch number with lossless text forms (the Hz clauses are in C10Hz.lean).
  All theorems quantify over every valid name (any accidentals) and every octave (the two text forms: every octave ≥ 0).
-/
namespace Mingus.Props.C10
open Mingus Mingus.Notes Mingus.Containers Mingus.Containers.Note

/-- the digit fold of Python's `int(text)` -/
def parseFold (x : Str) : Int := x.foldl (fun acc c => acc * 10 + (c.toNat - '0'.toNat : Nat)) (0 : Int)

/-- creating a note from a valid name keeps name and octave; its integer is 12·octave + natural + sharps − flats -/
theorem int_spec (l : Char) (t : Str) (hv : valid (l :: t) = true) (o : Int) (v : Int) (hl : natural? l = some v) :
    ∃ n, Note.new (l :: t) o none none = .ok n ∧ n.name = l :: t ∧ n.octave = o ∧ n.channel = 1 ∧ n.velocity = 64 ∧
      n.toInt = .ok (12 * o + v + (t.count '#' : Int) - (t.count 'b' : Int)) := by
  refine ⟨{ name := l :: t, octave := o }, setNote_valid _ _ hv o, rfl, rfl, rfl, rfl, ?_⟩
  rw [toInt_valid hv]
  simp only [Note.pitch, hl, Option.getD_some, accVal_count]
  congr 1; omega

theorem sharp_names : ∀ r ∈ List.range 12, intToNote (r : Int) ['#'] = .ok (ns.getD r []) ∧
    valid (ns.getD r []) = true ∧ (⟨ns.getD r [], 0, 1, 64⟩ : Note).pitch = r := by decide +kernel

/-- setting a note from an integer reproduces that integer (every integer, negative ones included) -/
theorem fromInt_roundtrip (n0 : Note) (i : Int) : ∃ n, fromInt n0 i = .ok n ∧ n.toInt = .ok i := by
  have hr : 0 ≤ i % 12 ∧ i % 12 < 12 := by omega
  obtain ⟨h1, h2, h3⟩ := sharp_names (i % 12).toNat (List.mem_range.2 (by omega))
  rw [Int.toNat_of_nonneg hr.1] at h1 h3
  generalize ns.getD (i % 12).toNat [] = nm at h1 h2 h3
  refine ⟨{ n0 with name := nm, octave := i / 12 }, by simp [fromInt, h1], ?_⟩
  -- the pitch number does not look at channel and velocity
  have h4 : ({ n0 with name := nm, octave := 0 } : Note).pitch = i % 12 := h3
  rw [toInt_valid h2, pitch_octave (n := { n0 with name := nm, octave := 0 }) h2, h4]
  simp only
  congr 1; omega

/-- the 'Name-octave' text form reads back as the same name and octave (octave ≥ 0) -/
theorem text_roundtrip (l : Char) (t : Str) (hv : valid (l :: t) = true) (o : Nat) (junk : Int) :
    ∃ n, Note.new ((l :: t) ++ '-' :: showNat o) junk none none = .ok n ∧ n.name = l :: t ∧ n.octave = o := by
  have hnd : '-' ∉ showNat o := fun hm => absurd (List.all_eq_true.1 (showNat_spec o).1 _ hm) (by decide)
  have hs := splitOn_one_sep '-' (l :: t) (showNat o) (valid_no_dash _ hv) hnd
  simp only [List.cons_append] at hs
  refine ⟨{ name := l :: t, octave := o }, ?_, rfl, rfl⟩
  simp [Note.new, setNote, hs, isValidNote_cons, hv, parse_show]

theorem repr_form (n : Note) (h : 0 ≤ n.octave) :
    n.repr = ['\''] ++ (n.name ++ '-' :: showNat n.octave.toNat) ++ ['\''] := by
  simp [Note.repr, showInt_nat _ h]

theorem comparisons (a b : Note) (x y : Int) (ha : a.toInt = .ok x) (hb : b.toInt = .ok y) :
    lt a b = .ok (decide (x < y)) ∧ le a b = .ok (decide (x ≤ y)) ∧ eq a b = .ok (decide (x = y)) ∧
    ne a b = .ok (decide (x ≠ y)) ∧ ge a b = .ok (decide (x ≥ y)) ∧ gt a b = .ok (decide (x > y)) := by
  -- each operator is a Boolean expression in `x < y` and `x = y`, which the trichotomy settles
  simp only [lt, le, eq, ne, ge, gt, ha, hb, ok_bind, pure_ok]
  rcases Int.lt_trichotomy x y with h | rfl | h
  · simp [h, Int.le_of_lt h, Int.ne_of_lt h, Int.not_le.2 h, Int.not_lt.2 (Int.le_of_lt h)]
  · simp
  · simp [h, Int.le_of_lt h, Int.ne_of_gt h, Int.not_le.2 h, Int.not_lt.2 (Int.le_of_lt h)]

theorem velocity_bound (nm : Str) (o v : Int) (c : Option Int) (h : v < 0 ∨ v > 127) :
    Note.new nm o (some v) c = .error .value := by
  have : ¬ (0 ≤ v ∧ v < 128) := by omega
  simp [Note.new, setNote, setVelocity, this]

theorem channel_bound (nm : Str) (o ch : Int) (h : ch < 0 ∨ ch > 15) : Note.new nm o none (some ch) = .error .value := by
  have : ¬ (0 ≤ ch ∧ ch < 16) := by omega
  simp [Note.new, setNote, setChannel, this]

theorem malformed_name (nm : Str) (o : Int) (hne : nm ≠ []) (hd : '-' ∉ nm) (hv : valid nm = false) :
    Note.new nm o none none = .error .noteFormat := by
  have hs := splitOn_no_sep '-' nm hd
  cases nm with
  | nil => exact absurd rfl hne
  | cons l t =>
    simp [Note.new, setNote, hs, isValidNote_cons, hv]

theorem copy_same (l : Char) (t : Str) (hv : valid (l :: t) = true) (o ch v : Int)
    (hc : 0 ≤ ch ∧ ch < 16) (hvel : 0 ≤ v ∧ v < 128) :
    Note.copy ⟨l :: t, o, ch, v⟩ = .ok ⟨l :: t, o, ch, v⟩ := by
  have : Note.copy ⟨l :: t, o, ch, v⟩ = setNote ⟨lit "C", 4, ch, v⟩ (l :: t) o none none := by
    simp [Note.copy, setNote, setVelocity, setChannel, hc, hvel]
  rw [this, setNote_valid _ _ hv]

theorem change_octave_nonneg (n : Note) (d : Int) : 0 ≤ (n.changeOctave d).octave ∧
    (0 ≤ n.octave + d → (n.changeOctave d).octave = n.octave + d) := by
  simp only [changeOctave]; split <;> constructor <;> intros <;> omega

theorem go_accs (t rest name : Str) (oct : Int) (ht : t.all isAcc = true) (hn : name ≠ []) :
    fromShorthandGo (t ++ rest) name oct = fromShorthandGo rest (name ++ t) oct := by
  induction t generalizing name with
  | nil => simp
  | cons c r ih =>
    simp only [List.all_cons, Bool.and_eq_true] at ht
    have step : fromShorthandGo (c :: (r ++ rest)) name oct = fromShorthandGo (r ++ rest) (name ++ [c]) oct := by
      rcases isAcc_iff.1 ht.1 with rfl | rfl <;> simp [fromShorthandGo, hn]
    rw [List.cons_append, step, ih _ ht.2 (by simp), List.append_assoc, List.singleton_append]

theorem go_marks (c : Char) (d : Int) (hc : c = ',' ∧ d = -1 ∨ c = '\'' ∧ d = 1) (k : Nat) (name : Str) (oct : Int) :
    fromShorthandGo (List.replicate k c) name oct = (name, oct + k * d) := by
  induction k generalizing oct with
  | zero => simp [fromShorthandGo]
  | succ k ih =>
    have step : fromShorthandGo (c :: List.replicate k c) name oct = fromShorthandGo (List.replicate k c) name (oct + d) := by
      rcases hc with ⟨rfl, rfl⟩ | ⟨rfl, rfl⟩ <;> simp [fromShorthandGo, Int.sub_eq_add_neg]
    rw [List.replicate_succ, step, ih, Int.natCast_succ, Int.add_mul, Int.one_mul]; congr 1; omega

theorem lower_accs (t : Str) (ht : t.all isAcc = true) : t.map Char.toLower = t := by
  rw [List.map_congr_left (g := id), List.map_id]
  intro c hc
  rcases isAcc_iff.1 (List.all_eq_true.1 ht c hc) with rfl | rfl <;> rfl

theorem go_first (l : Char) (hl : isLetter l = true) (rest : Str) :
    fromShorthandGo (l :: rest) [] 0 = fromShorthandGo rest [l] 2 ∧
    fromShorthandGo (l.toLower :: rest) [] 0 = fromShorthandGo rest [l] 3 := by
  rcases letter_cases hl with e | e | e | e | e | e | e <;> subst e <;> constructor <;>
    simp [fromShorthandGo]

theorem toShorthand_eq (l : Char) (t : Str) (ht : t.all isAcc = true) (o : Int) (ho : 0 ≤ o) (ch v : Int) :
    toShorthand ⟨l :: t, o, ch, v⟩ =
      if o < 3 then l :: (t ++ List.replicate (2 - o).toNat ',') else l.toLower :: (t ++ List.replicate (o - 3).toNat '\'') := by
  simp only [toShorthand, List.map_cons, lower_accs t ht]
  by_cases h3 : o < 3
  · simp only [h3, if_true, show ¬ (o - 3 > 0) by omega, if_false]
    split
    · rw [show -1 - (o - 3) = 2 - o by omega]; rfl
    · rw [show (2 - o).toNat = 0 by omega]; simp
  · simp only [h3, if_false, show ¬ (o - 3 < -1) by omega]
    split
    · rfl
    · rw [show (o - 3).toNat = 0 by omega]; simp

/-- Helmholtz shorthand written for any valid name (sharps or flats, any number) and any octave ≥ 0 reads back as the
    same name and octave -/
theorem helmholtz_roundtrip (l : Char) (t : Str) (hv : valid (l :: t) = true) (o : Int) (ho : 0 ≤ o) (ch v : Int) (n0 : Note) :
    fromShorthand n0 (toShorthand ⟨l :: t, o, ch, v⟩) = .ok { n0 with name := l :: t, octave := o } := by
  obtain ⟨hl, ht⟩ : isLetter l = true ∧ t.all isAcc = true := by simpa [valid] using hv
  have key : fromShorthandGo (toShorthand ⟨l :: t, o, ch, v⟩) [] 0 = (l :: t, o) := by
    rw [toShorthand_eq l t ht o ho]
    split
    · rw [(go_first l hl _).1, go_accs t _ [l] 2 ht (by simp), go_marks ',' (-1) (by simp),
        show (2 : Int) + ((2 - o).toNat : Int) * -1 = o by omega]; rfl
    · rw [(go_first l hl _).2, go_accs t _ [l] 3 ht (by simp), go_marks '\'' 1 (by simp),
        show (3 : Int) + ((o - 3).toNat : Int) * 1 = o by omega]; rfl
  simp only [fromShorthand, key]
  exact setNote_valid n0 _ hv o

example : Note.new (lit "C#b#") 5 none none = .ok ⟨lit "C#b#", 5, 1, 64⟩ := by decide +kernel
example : (Note.mk (lit "Cb") 4 1 64).toShorthand = lit "cb'" ∧
    Note.fromShorthand ⟨lit "C", 4, 1, 64⟩ (lit "cb'") = .ok ⟨lit "Cb", 4, 1, 64⟩ := by decide +kernel
example : Note.new (lit "Bb-12") 0 none none = .ok ⟨lit "Bb", 12, 1, 64⟩ := by decide +kernel

end Mingus.Props.C10
