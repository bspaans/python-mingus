import Mingus.Props.C20Decode
/-
  C20 — the tablature of a whole track decodes (`from_Track`).
  `from_Track` renders every bar with `from_Bar` and either starts a new system (two empty lines, then the bar's lines) or glues
  the bar, cut after its label columns, to the lines of the last system.  The one fact about gluing is `SysOK.glue`; it asks of
  the label columns only what `GlueCols` says.  The side conditions on the labels (`TuningOK`) hold for every registered
  single-string tuning (kernel check).
-/
namespace Mingus.Props.C20
open Mingus Mingus.Tun Mingus.Tab Mingus.Containers

theorem nodigit_drop (x : Line) (k : Nat) (h : nodigit x) : nodigit (x.drop k) :=
  List.eq_nil_of_sublist_nil (h ▸ (List.drop_sublist k x).filter _)

theorem find2_go_le (pre rest : Line) : ∀ (i : Nat), (i : Int) ≤ find2.go (pre ++ '|' :: '|' :: rest) i ∧
    find2.go (pre ++ '|' :: '|' :: rest) i ≤ i + pre.length := by
  induction pre with
  | nil => intro i; simp [find2.go]
  | cons c cs ih =>
    intro i
    rw [List.cons_append]
    unfold find2.go
    split
    · simp; omega
    · rename_i j _ _ _ _ _ h
      cases h
      have := ih (j + 1)
      simp only [List.length_cons]; omega
    · rename_i h; cases h

theorem find2_le (pre rest : Line) : 0 ≤ find2 (pre ++ '|' :: '|' :: rest) ∧ find2 (pre ++ '|' :: '|' :: rest) ≤ pre.length := by
  simpa [find2] using find2_go_le pre rest 0

/-- the label columns every bar of tuning `t` drawn at `width` starts from (none when `_get_qsize` or `begin_track`
    fails) -/
def labelCols (t : Tuning) (width : Int) : List Line :=
  match qSize t width with
  | .ok qs => (match beginTrack t (max 2 (qs / 2)) with | .ok s => s | .error _ => [])
  | .error _ => []

theorem labelCols_eq (t : Tuning) (width qs : Int) (start : List Line) (hq : qSize t width = .ok qs)
    (hs : beginTrack t (max 2 (qs / 2)) = .ok start) : labelCols t width = start := by
  simp [labelCols, hq, hs]

def GlueCols (start : List Line) : Prop :=
  (∃ H, ∀ ln ∈ start, ln.length = H) ∧ ∀ ln ∈ start, nodigit ln ∧ ∃ pre rest, ln = pre ++ '|' :: '|' :: rest

/-- the conditions on a tuning under which its tablature decodes (all registered single-string tunings:
    `registered_labels_fit`, `registered_labels_nodigit`) -/
def TuningOK (t : Tuning) : Prop :=
  ∃ names, labels t = .ok names ∧ (∀ x ∈ names, (x.length : Int) + 1 ≤ (maxStr names).length + 3) ∧ ∀ x ∈ names, nodigit x

theorem beginTrack_glueCols (t : Tuning) (ht : TuningOK t) (pad : Int) (start : List Line)
    (hs : beginTrack t pad = .ok start) : GlueCols start := by
  obtain ⟨names, hl, hfit, hnd⟩ := ht
  refine ⟨beginTrack_equal t pad names start hl hfit hs, fun ln hln => ?_⟩
  rw [beginTrack_ok t pad names start hl hs] at hln
  obtain ⟨x, hx, rfl⟩ := List.mem_map.1 hln
  exact ⟨by simp [nodigit, hnd x hx], (' ' :: x) ++ rep ' ' (((maxStr names).length + 3 : Int) - (' ' :: x).length),
    rep '-' pad, by simp⟩

/-- a cut after the first `||` of a line that starts with a label column falls inside every label column -/
theorem cut_le (start : List Line) (hst : GlueCols start) (lastS : Line) (hl : lastS ∈ start) (X : Line) :
    ∀ ln ∈ start, (find2 (lastS ++ X) + 2).toNat ≤ ln.length := by
  obtain ⟨⟨H, hH⟩, hsh⟩ := hst
  obtain ⟨_, pre, rest, rfl⟩ := hsh _ hl
  intro ln hln
  have h1 := (find2_le pre (rest ++ X)).2
  have h2 := hH _ hl
  rw [hH ln hln, ← h2]
  simp only [List.append_assoc, List.cons_append, List.length_append, List.length_cons] at h1 ⊢
  omega

theorem glue_last (P S r : List Line) (B : Int) (h : S.length = r.length) :
    glue (P ++ S) r B = P ++ (List.zip S r).map fun (a, b) => a ++ b.drop B.toNat := by
  unfold glue
  have e : (P ++ S).length - r.length = P.length := by simp [h]
  simp only [e, List.take_left', List.drop_left']

theorem zipWith_appendSegs (start : List Line) (G G' : Nat → Line) (B : Nat) (hB : ∀ ln ∈ start, B ≤ ln.length) :
    List.zipWith (fun a b => a ++ b.drop B) (appendSegs start G) (appendSegs start G') =
      appendSegs start (fun i => G i ++ ((start.getD i []).drop B ++ G' i)) := by
  apply List.ext_getElem
  · simp [appendSegs]
  · intro k h1 h2
    have hk : k < start.length := by simpa [appendSegs] using h2
    simp [appendSegs, hk, List.drop_append_of_le_length (hB _ (List.getElem_mem hk)), List.append_assoc]

/-- one bar inside a system: what string `i` shows before the cells, the cells, the closing -/
structure BarSeg where
  lead : Nat → Line
  gs : List (Nat → Line)
  close : Line

def BarSeg.text (s : BarSeg) (i : Nat) : Line := s.lead i ++ (cellsOn s.gs i ++ s.close)

def SegOK (t : Tuning) (b : TBar) (s : BarSeg) : Prop :=
  List.Forall₂ (Decodes t) b.entries s.gs ∧ nodigit s.close ∧ ∀ i, nodigit (s.lead i)

/-- the string lines `L` (highest string first) of a system showing `bars` -/
def SysOK (t : Tuning) (start : List Line) (bars : List TBar) (L : List Line) : Prop :=
  ∃ segs, List.Forall₂ (SegOK t) bars segs ∧ L.reverse = appendSegs start (fun i => (segs.map (·.text i)).flatten)

abbrev Sys := Line × List Line × List TBar     -- quarter-mark line, string lines, the bars shown

def render (systems : List Sys) : List Line := systems.flatMap fun s => [[], []] ++ s.1 :: s.2.1

theorem render_snoc (systems : List Sys) (s : Sys) : render (systems ++ [s]) = render systems ++ ([[], []] ++ s.1 :: s.2.1) := by
  simp [render]

theorem sysOK_length (t : Tuning) (start : List Line) (bars : List TBar) (L : List Line) (h : SysOK t start bars L) :
    L.length = start.length := by
  obtain ⟨segs, _, hL⟩ := h
  simpa [appendSegs] using congrArg List.length hL

theorem SysOK.single (t : Tuning) (start : List Line) (b : TBar) (L : List Line) (gs : List (Nat → Line)) (close : Line)
    (hL : L.reverse = appendSegs start (fun i => cellsOn gs i ++ close)) (hdec : List.Forall₂ (Decodes t) b.entries gs)
    (hclose : nodigit close) : SysOK t start [b] L :=
  ⟨[⟨fun _ => [], gs, close⟩], .cons ⟨hdec, hclose, fun _ => rfl⟩ .nil, by simpa [BarSeg.text] using hL⟩

/-- **the step shared by `from_Track` and `from_Composition`**: a bar drawn on the same label columns, cut after its `||`
    and glued to lines that end in a system, extends that system, whatever the quarter-mark lines `q`, `top'` are; what is
    left of its label columns is a digit-free lead-in -/
theorem SysOK.glue (t : Tuning) (start : List Line) (hst : GlueCols start) (bars : List TBar) (b : TBar) (L1 L2 : List Line)
    (h1 : SysOK t start bars L1) (h2 : SysOK t start [b] L2) (P : List Line) (q top top' : Line) :
    ∃ q' L', glue (P ++ q :: L1) (top' :: L2) (find2 ((top :: L2).getD 1 []) + 2) = P ++ q' :: L' ∧
      SysOK t start (bars ++ [b]) L' := by
  have hlen : L1.length = L2.length := by rw [sysOK_length t start bars L1 h1, sysOK_length t start [b] L2 h2]
  obtain ⟨segs, hsegs, hL1⟩ := h1
  obtain ⟨segs2, hsegs2, hL2⟩ := h2
  obtain ⟨seg, hseg, rfl⟩ : ∃ seg, SegOK t b seg ∧ segs2 = [seg] := by
    cases hsegs2 with
    | cons h hn => cases hn; exact ⟨_, h, rfl⟩
  generalize hB : find2 ((top :: L2).getD 1 []) + 2 = B
  -- the first string line of the bar is a label column followed by cells
  have hcut : ∀ ln ∈ start, B.toNat ≤ ln.length := by
    intro ln hln
    cases L2 with
    | nil => simp [appendSegs] at hL2; simp [hL2] at hln
    | cons l0 L2' =>
      have hm : l0 ∈ (l0 :: L2').reverse := by simp
      rw [hL2] at hm
      obtain ⟨i, hi, rfl⟩ := List.mem_mapIdx.1 hm
      exact hB ▸ cut_le start hst _ (List.getElem_mem hi) _ ln hln
  refine ⟨q ++ top'.drop B.toNat, List.zipWith (fun a c => a ++ c.drop B.toNat) L1 L2, ?_,
    segs ++ [⟨fun i => (start.getD i []).drop B.toNat ++ seg.lead i, seg.gs, seg.close⟩],
    List.rel_append hsegs (.cons ⟨hseg.1, hseg.2.1, fun i => ?_⟩ .nil), ?_⟩
  · rw [glue_last P _ _ B (by simp [hlen]), List.map_zip_eq_zipWith]; rfl
  · have : nodigit (start.getD i []) := by
      rw [List.getD_eq_getElem?_getD]
      cases h : start[i]? with
      | none => rfl
      | some ln => exact (hst.2 ln (List.mem_of_getElem? h)).1
    show ((start.getD i []).drop B.toNat ++ seg.lead i).filter Char.isDigit = []
    rw [List.filter_append, nodigit_drop _ _ this, hseg.2.2 i]; rfl
  · rw [List.reverse_zipWith hlen, hL1, hL2, zipWith_appendSegs start _ _ _ hcut]
    simp [BarSeg.text, List.append_assoc]

/-- the page-level step of `from_Track`: a rendered bar (any quarter-mark line `top`, string lines `L` as `from_Bar` makes
    them) is either glued to the last system or opens a new one; the system structure is kept -/
theorem sys_step_sys (t : Tuning) (names : List Str) (hl : labels t = .ok names)
    (hfit : ∀ x ∈ names, (x.length : Int) + 1 ≤ (maxStr names).length + 3) (hnd : ∀ x ∈ names, nodigit x)
    (start : List Line) (pad : Int) (hs : beginTrack t pad = .ok start)
    (R : List Line) (done : List TBar) (b : TBar) (systems : List Sys) (hR : R = render systems)
    (hok : ∀ s ∈ systems, SysOK t start s.2.2 s.2.1) (hdone : systems.flatMap (·.2.2) = done)
    (top : Line) (L : List Line) (gs : List (Nat → Line)) (close : Line)
    (hL : L.reverse = appendSegs start (fun i => cellsOn gs i ++ close)) (hdec : List.Forall₂ (Decodes t) b.entries gs)
    (hclose : nodigit close) (c : Prop) [Decidable c] (R' : List Line)
    (hR' : (if c ∧ R ≠ [] then glue R (top :: L) (find2 ((top :: L).getD 1 []) + 2) else R ++ [[], []] ++ top :: L) = R') :
    ∃ systems' : List Sys, R' = render systems' ∧ (∀ s ∈ systems', SysOK t start s.2.2 s.2.1) ∧
      systems'.flatMap (·.2.2) = done ++ [b] ∧
      systems'.length = (if c ∧ R ≠ [] then systems.length else systems.length + 1) := by
  have hnew := SysOK.single t start b L gs close hL hdec hclose
  subst hR' hdone
  split
  · rename_i hc
    obtain ⟨init, ⟨ltop, lL, lbars⟩, rfl⟩ : ∃ init last, systems = init ++ [last] := by
      rcases List.eq_nil_or_concat systems with rfl | ⟨init, last, rfl⟩
      · exact absurd (by rw [hR]; rfl) hc.2
      · exact ⟨init, last, List.concat_eq_append⟩
    obtain ⟨q', L', hg, hsys⟩ := SysOK.glue t start (beginTrack_glueCols t ⟨names, hl, hfit, hnd⟩ pad start hs) lbars b lL L
      (hok (ltop, lL, lbars) (by simp)) hnew (render init ++ [[], []]) ltop top top
    refine ⟨init ++ [(q', L', lbars ++ [b])], ?_, ?_, by simp, by simp⟩
    · rw [hR, render_snoc, render_snoc, ← List.append_assoc, hg, List.append_assoc]
    · intro s hs'
      rcases List.mem_append.1 hs' with hs' | hs'
      · exact hok s (by simp [hs'])
      · rw [List.mem_singleton.1 hs']; exact hsys
  · refine ⟨systems ++ [(top, L, [b])], by rw [hR, render_snoc]; simp, ?_, by simp, by simp⟩
    intro s hs'
    rcases List.mem_append.1 hs' with hs' | hs'
    · exact hok s hs'
    · rw [List.mem_singleton.1 hs']; exact hnew

theorem fromTrack_systems (t : Tuning) (ht : TuningOK t) (bars : List TBar) (maxwidth : Int) (R : List Line)
    (h : fromTrack t bars maxwidth = .ok R) :
    ∃ systems : List Sys, R = render systems ∧
      (∀ s ∈ systems, SysOK t (labelCols t (getWidth maxwidth)) s.2.2 s.2.1) ∧ systems.flatMap (·.2.2) = bars := by
  obtain ⟨names, hl, hfit, hnd⟩ := ht
  simp only [fromTrack, bind_eq_ok] at h
  obtain ⟨res, hfold, h⟩ := h
  cases pure_eq_ok.1 h
  refine foldlM_inv _ (fun (acc : List Line × Int) done => ∃ systems : List Sys, acc.1 = render systems ∧
    (∀ s ∈ systems, SysOK t (labelCols t (getWidth maxwidth)) s.2.2 s.2.1) ∧ systems.flatMap (·.2.2) = done)
    bars _ res hfold ⟨[], rfl, by simp, rfl⟩ ?_
  rintro ⟨R, ll⟩ b _ ⟨R', l'⟩ done ⟨systems, hR, hok, hdone⟩ hstep
  simp only [bind_eq_ok, pure_eq_ok, Prod.mk.injEq] at hstep
  obtain ⟨ls, hls, hR', _⟩ := hstep
  obtain ⟨top, L, start, gs, close, rfl, ⟨qs, _, hq, rfl, hs⟩, hL, hdec, hclose⟩ := fromBar_system t b _ ls hls
  rw [labelCols_eq t _ qs start hq hs] at hok ⊢
  obtain ⟨s', h1, h2, h3, _⟩ := sys_step_sys t names hl hfit hnd start _ hs R done b systems hR hok hdone top L gs close hL hdec
    hclose _ R' hR'
  exact ⟨s', h1, h2, h3⟩

/-- **from_Track decodes**: the result is a sequence of systems (two empty lines, the quarter-mark line, the string
    lines); every bar of the track is shown in exactly one system, in order; a string of a system reads: leading columns
    `start` (the same for all systems; `fromTrack_systems` names them, `labelCols`), then per bar a digit-free lead-in,
    one cell per entry reading back as a fingering of that entry, and a digit-free closing -/
theorem fromTrack_decode (t : Tuning) (names : List Str) (hl : labels t = .ok names)
    (hfit : ∀ x ∈ names, (x.length : Int) + 1 ≤ (maxStr names).length + 3) (hnd : ∀ x ∈ names, nodigit x)
    (bars : List TBar) (maxwidth : Int) (R : List Line) (h : fromTrack t bars maxwidth = .ok R) (hne : bars ≠ []) :
    ∃ (start : List Line) (systems : List Sys), R = render systems ∧ (∀ s ∈ systems, SysOK t start s.2.2 s.2.1) ∧
      systems.flatMap (·.2.2) = bars :=
  ⟨_, fromTrack_systems t ⟨names, hl, hfit, hnd⟩ bars maxwidth R h⟩

/-- every registered tuning without courses: no label contains a digit (whole registry) - with `registered_labels_fit`
    the two side conditions of `fromTrack_decode` hold for all of them -/
theorem registered_labels_nodigit : ∀ e ∈ registered, singleStrings e.tuning = true →
    (match labels e.tuning with
     | .ok names => names.all (fun x => (x.filter Char.isDigit).isEmpty)
     | .error _ => false) = true := by
  decide +kernel

private def nt2 (s : String) (o : Int) : Note := ⟨s.toList, o, 1, 64⟩
private def tbar1 : TBar := ⟨4, 4, [⟨4, some [nt2 "C" 3, nt2 "E" 3]⟩, ⟨4, none⟩, ⟨2, some [nt2 "A" 4]⟩]⟩
example : (fromTrack defaultTuning [tbar1, tbar1, tbar1] 80).toOption.map (fun R => (R.length, (R.getD 3 []).filter Char.isDigit)) =
    some (18, lit "55") := by decide +kernel

end Mingus.Props.C20
