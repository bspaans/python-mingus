import Mingus.Model.Float
import Mathlib.Algebra.Order.Field.Rat
import Mathlib.Tactic.Linarith
import Mathlib.Tactic.Positivity
import Mathlib.Tactic.FieldSimp
import Mathlib.Algebra.Order.Floor.Ring
import Mathlib.Data.Rat.Floor
import Mathlib.Tactic.Ring
import Mathlib.Tactic.SplitIfs
import Mathlib.Tactic.NormNum
import Mathlib.Algebra.Order.AbsoluteValue.Basic
/-
  Facts about the IEEE-754 model `F64.round`.  For a positive rational it returns a nearest integer multiple of
  `2^(e-52)`, `e = ilog2 a` (`round_pos_eq`), and it is odd (`round_neg`); from these two: rounding never turns a non-zero
  rational into zero (within the normal range, which is all the model represents), so `x / y` (`y ≠ 0`) in double arithmetic is
  zero exactly when `x` is, and every `m·2^k` with `|m| < 2^53` is returned unchanged.
-/
namespace Mingus.F64

theorem pow2_eq_zpow (i : Int) : pow2 i = (2 : Rat) ^ i := by
  unfold pow2
  split
  · rw [← zpow_natCast, Int.toNat_of_nonneg ‹_›]
  · rw [one_div, ← zpow_natCast, ← zpow_neg, Int.toNat_of_nonneg (by omega), neg_neg]

theorem pow2_pos (i : Int) : 0 < pow2 i := by rw [pow2_eq_zpow]; exact zpow_pos (by norm_num) i

theorem pow2_mono {i j : Int} (h : i ≤ j) : pow2 i ≤ pow2 j := by
  rw [pow2_eq_zpow, pow2_eq_zpow]
  exact zpow_le_zpow_right₀ (by norm_num) h

theorem pow2_add (i j : Int) : pow2 (i + j) = pow2 i * pow2 j := by
  rw [pow2_eq_zpow, pow2_eq_zpow, pow2_eq_zpow, zpow_add₀ (by norm_num : (2 : Rat) ≠ 0)]

theorem pow2_succ (i : Int) : pow2 (i + 1) = 2 * pow2 i := by
  rw [pow2_add, mul_comm]; rfl

theorem pow2_lt_iff {i j : Int} : pow2 i < pow2 j ↔ i < j := by
  rw [pow2_eq_zpow, pow2_eq_zpow]
  exact zpow_lt_zpow_iff_right₀ (by norm_num)

theorem pow2_natCast (n : Nat) : pow2 (n : Int) = ((2 ^ n : Nat) : Rat) := by
  rw [pow2_eq_zpow, zpow_natCast]; push_cast; rfl

theorem round_neg (q : Rat) : round (-q) = - round q := by
  rcases lt_trichotomy q 0 with h | rfl | h
  · simp only [round, neg_eq_zero, h.ne, neg_neg, not_lt.2 (neg_nonneg.2 h.le), h, if_true, if_false]
  · rfl
  · simp only [round, neg_eq_zero, h.ne', neg_neg, neg_lt_zero.2 h, not_lt.2 h.le, if_true, if_false]

theorem pow2_ilog2_le (a : Rat) (ha : 0 < a) : pow2 (ilog2 a) ≤ a := by
  simp only [ilog2]
  split_ifs with h1 h2
  · exact h2
  · exact h1
  · -- 2^(l1 - l2 - 1) ≤ num / den from 2^l1 ≤ num and den < 2^(l2+1)
    have hnum : 0 < a.num := Rat.num_pos.2 ha
    have hn : ((2 ^ a.num.natAbs.log2 : Nat) : Rat) ≤ a.num := by
      have := Nat.cast_le (α := Rat).2 (Nat.log2_self_le (Int.natAbs_ne_zero.2 hnum.ne'))
      rwa [Nat.cast_natAbs, abs_of_pos hnum] at this
    have hd : (a.den : Rat) ≤ (2 ^ (a.den.log2 + 1) : Nat) := Nat.cast_le.2 Nat.lt_log2_self.le
    have : (a.num.natAbs.log2 : Int) - a.den.log2 - 1 = a.num.natAbs.log2 - (a.den.log2 + 1 : Nat) := by omega
    rw [this, pow2_eq_zpow, zpow_sub₀ two_ne_zero, zpow_natCast, zpow_natCast]
    calc _ ≤ (a.num : Rat) / a.den :=
          div_le_div₀ (Int.cast_nonneg hnum.le) (by simpa using hn) (Nat.cast_pos.2 a.den_pos) (by simpa using hd)
      _ = a := Rat.num_div_den a

theorem round_pos_eq (a : Rat) (ha : 0 < a) :
    ∃ r : Int, round a = (r : Rat) * pow2 (ilog2 a - 52) ∧ |(r : Rat) - a / pow2 (ilog2 a - 52)| ≤ 1 / 2 := by
  simp only [round, ha.ne', if_false, not_lt.2 ha.le]
  set m := a / pow2 (ilog2 a - 52)
  have h1 : (m.floor : Rat) ≤ m := Int.floor_le m
  have h2 : m < (m.floor : Rat) + 1 := Int.lt_floor_add_one m
  -- each branch takes ⌊m⌋ or ⌊m⌋ + 1, and its condition says that this is within 1/2 of m
  split_ifs
  all_goals refine ⟨_, rfl, abs_le.2 ⟨?_, ?_⟩⟩ <;> push_cast <;> linarith

theorem round_pos (a : Rat) (ha : 0 < a) : 0 < round a := by
  obtain ⟨r, hr, hrm⟩ := round_pos_eq a ha
  -- the mantissa is at least 1 (indeed 2^52), so the integer nearest to it is positive
  have : 1 ≤ a / pow2 (ilog2 a - 52) := (one_le_div (pow2_pos _)).2 ((pow2_mono (by omega)).trans (pow2_ilog2_le a ha))
  rw [hr]
  exact mul_pos (by linarith [(abs_le.1 hrm).1]) (pow2_pos _)

theorem round_ne_zero (q : Rat) (hq : q ≠ 0) : round q ≠ 0 := by
  rcases hq.lt_or_gt with h | h
  · have := round_pos (-q) (neg_pos.2 h)
    rw [round_neg] at this
    exact (neg_pos.1 this).ne
  · exact (round_pos q h).ne'

theorem round_eq_zero_iff {q : Rat} : round q = 0 ↔ q = 0 :=
  ⟨fun h => by_contra fun hq => round_ne_zero q hq h, fun h => by rw [h]; rfl⟩

theorem div_ne_zero (x y : Rat) (hx : x ≠ 0) (hy : y ≠ 0) : F64.div x y ≠ 0 :=
  round_ne_zero _ (_root_.div_ne_zero hx hy)

theorem div_zero_left (y : Rat) : F64.div 0 y = 0 := by simp [F64.div, round_eq_zero_iff]

theorem round_exact_of_lt (M : Nat) (k : Int) (hlt : (M : Rat) * pow2 k < pow2 (53 + k)) :
    round ((M : Rat) * pow2 k) = (M : Rat) * pow2 k := by
  rcases M.eq_zero_or_pos with rfl | hM0
  · simp [round]
  have hq : (0 : Rat) < M * pow2 k := mul_pos (Nat.cast_pos.2 hM0) (pow2_pos k)
  obtain ⟨r, hr, hrm⟩ := round_pos_eq _ hq
  set e := ilog2 (M * pow2 k)
  -- the mantissa is the integer M·2^n, n = k - (e - 52) ≥ 0, since 2^e ≤ M·2^k < 2^(53+k)
  have hek : e < 53 + k := pow2_lt_iff.1 ((pow2_ilog2_le _ hq).trans_lt hlt)
  obtain ⟨n, hn⟩ : ∃ n : Nat, k = e - 52 + n := ⟨(k - (e - 52)).toNat, by omega⟩
  have hmant : (M : Rat) * pow2 k / pow2 (e - 52) = ((M * 2 ^ n : Nat) : Int) := by
    rw [hn, pow2_add, pow2_natCast, mul_div_assoc, mul_div_cancel_left₀ _ (pow2_pos _).ne']
    push_cast; rfl
  rw [hmant, ← Int.cast_sub, ← Int.cast_abs] at hrm
  have : |r - (M * 2 ^ n : Nat)| < 1 := by exact_mod_cast hrm.trans_lt (by norm_num : (1 : Rat) / 2 < 1)
  rw [hr, sub_eq_zero.1 (Int.abs_lt_one_iff.1 this), ← hmant, div_mul_cancel₀ _ (pow2_pos _).ne']

theorem round_exact_nat (M : Nat) (k : Int) (hM : M < 2 ^ 53) : round ((M : Rat) * pow2 k) = (M : Rat) * pow2 k := by
  refine round_exact_of_lt M k ?_
  rw [pow2_add, show pow2 53 = ((2 ^ 53 : Nat) : Rat) from pow2_natCast 53]
  exact mul_lt_mul_of_pos_right (Nat.cast_lt.2 hM) (pow2_pos k)

theorem round_exact (m : Int) (k : Int) (hm : m.natAbs < 2 ^ 53) : round ((m : Rat) * pow2 k) = (m : Rat) * pow2 k := by
  obtain ⟨n, rfl | rfl⟩ := m.eq_nat_or_neg
  · exact_mod_cast round_exact_nat n k (by simpa using hm)
  · rw [Int.cast_neg, neg_mul, round_neg, Int.cast_natCast, round_exact_nat n k (by simpa using hm)]

end Mingus.F64
