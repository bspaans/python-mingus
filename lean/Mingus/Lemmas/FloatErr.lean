import Mingus.Lemmas.Float
/-
  The error of one rounding in the IEEE model: `|round q − q| ≤ |q| · 2⁻⁵³` for EVERY rational `q` (the model has no
  overflow and no subnormals, so the bound is unconditional).
-/
namespace Mingus.F64

/-- the unit roundoff of binary64 -/
def u : Rat := 1 / 2 ^ 53

theorem u_pos : 0 < u := by unfold u; positivity

theorem u_lt_one : u < 1 := by unfold u; norm_num

theorem pow2_neg53 : pow2 (-53) = u := by
  rw [pow2_eq_zpow]; unfold u; norm_num [zpow_neg]

theorem round_pos_err (a : Rat) (ha : 0 < a) : |round a - a| ≤ a * u := by
  obtain ⟨r, hr, hrm⟩ := round_pos_eq a ha
  have hP := pow2_pos (ilog2 a - 52)
  -- half a unit of the last place is 2^e · u ≤ a · u
  have hsplit : pow2 (ilog2 a - 52) = pow2 (ilog2 a) * (2 * u) := by
    rw [show ilog2 a - 52 = ilog2 a + (-53 + 1) by ring, pow2_add, pow2_succ, pow2_neg53]
  have hrw : round a - a = ((r : Rat) - a / pow2 (ilog2 a - 52)) * pow2 (ilog2 a - 52) := by
    rw [hr, sub_mul, div_mul_cancel₀ _ hP.ne']
  rw [hrw, abs_mul, abs_of_pos hP]
  calc |(r : Rat) - a / pow2 (ilog2 a - 52)| * pow2 (ilog2 a - 52)
      ≤ (1 / 2) * pow2 (ilog2 a - 52) := mul_le_mul_of_nonneg_right hrm hP.le
    _ = pow2 (ilog2 a) * u := by rw [hsplit]; ring
    _ ≤ a * u := mul_le_mul_of_nonneg_right (pow2_ilog2_le a ha) u_pos.le

theorem round_err (q : Rat) : |round q - q| ≤ |q| * u := by
  rcases lt_trichotomy q 0 with h | rfl | h
  · have := round_pos_err (-q) (neg_pos.2 h)
    rwa [round_neg, ← neg_sub', abs_neg, ← abs_of_neg h] at this
  · simp [round]
  · rw [abs_of_pos h]; exact round_pos_err q h

end Mingus.F64
