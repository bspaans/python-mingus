import Mingus.Lemmas.Notes
import Mingus.Model.Intervals
/- The correction loop `fix` in closed form on canonical spellings (`fix_rep`); from it every loop constructor returns
   a canonical name on the right letter (`ctor_closed`), hence preserves `Good` (`ctor_good`). -/
namespace Mingus.Intervals
open Mingus.Notes Mingus.Keys

theorem measureP_eq (a b : Str) : measureP a b = (pc b - pc a) % 12 := by
  have ha := pc_range a; have hb := pc_range b
  unfold measureP; simp only; split <;> omega

theorem measureP_range (a b : Str) : 0 ≤ measureP a b ∧ measureP a b < 12 := by
  rw [measureP_eq]; omega

theorem measure_valid (a b : Str) (ha : valid a = true) (hb : valid b = true) :
    measure a b = .ok (measureP a b) := by
  simp [measure, noteToInt_of_valid ha, noteToInt_of_valid hb, measureP]

theorem measureP_rep_add (n1 : Str) (l : Char) (v d : Int)
    (h : 0 ≤ measureP n1 (rep l v) + d ∧ measureP n1 (rep l v) + d < 12) :
    measureP n1 (rep l (v + d)) = measureP n1 (rep l v) + d := by
  simp only [measureP_eq, pc_rep] at *; omega

theorem fix_rep (l : Char) (hb : l ≠ 'b') (hs : l ≠ '#') (n1 : Str) (iv : Int) (hiv : 0 ≤ iv ∧ iv < 12) :
    ∀ (f : Nat) (v : Int), ((iv - measureP n1 (rep l v)).natAbs ≤ f) →
      fix f n1 (rep l v) iv = rep l (v + (iv - measureP n1 (rep l v))) := by
  intro f
  induction f with
  | zero =>
    intro v h
    have : iv - measureP n1 (rep l v) = 0 := by omega
    simp [fix, this]
  | succ f ih =>
    intro v h
    have hm := measureP_range n1 (rep l v)
    unfold fix
    simp only
    split
    · simp [*]
    · split
      · have hm' := measureP_rep_add n1 l v (-1) (by omega)
        rw [diminish_rep l hs, Int.sub_eq_add_neg, ih _ (by omega), hm']; congr 1; omega
      · have hm' := measureP_rep_add n1 l v 1 (by omega)
        rw [augment_rep l hb, ih _ (by omega), hm']; congr 1; omega

theorem normAcc_spec (d : Int) (h : -12 < d ∧ d < 12) :
    -6 ≤ normAcc d ∧ normAcc d ≤ 6 ∧ (normAcc d - d) % 12 = 0 := by
  unfold normAcc pyModNeg12
  split
  · omega
  · split <;> omega

def letterUp (l : Char) (k : Nat) : Char := baseScale.getD ((baseScale.idxOf l + k) % 7) 'C'

theorem mem_baseScale {l : Char} (h : isLetter l = true) : l ∈ baseScale := by
  rcases letter_cases h with e | e | e | e | e | e | e <;> subst e <;> decide

theorem isLetter_of_mem {l : Char} (h : l ∈ baseScale) : isLetter l = true :=
  (by decide : ∀ l ∈ baseScale, isLetter l = true) l h

theorem letterUp_isLetter (l : Char) (k : Nat) : isLetter (letterUp l k) = true := by
  have : ∀ i, i < 7 → isLetter (baseScale.getD i 'C') = true := by decide
  exact this _ (Nat.mod_lt _ (by decide))

theorem letterUp_zero {l : Char} (h : isLetter l = true) : letterUp l 0 = l :=
  (by decide : ∀ l ∈ baseScale, letterUp l 0 = l) l (mem_baseScale h)

theorem interval_C (l : Char) (h : isLetter l = true) (k : Nat) (hk : k < 7) :
    interval (lit "C") [l] k = .ok [letterUp l k] :=
  (by decide +kernel : ∀ k ∈ List.range 7, ∀ l ∈ baseScale, interval (lit "C") [l] k = .ok [letterUp l k])
    k (List.mem_range.2 hk) l (mem_baseScale h)

theorem ctorTable_ranges : ∀ r ∈ ctorTable, 1 ≤ r.2.1 ∧ r.2.1 < 7 ∧ 0 ≤ r.2.2 ∧ r.2.2 < 12 := by decide

/-- the accidental count `w` of the result is the distance still to go, brought into -6..6 -/
theorem ctor_closed (step : Nat) (hstep : step < 7) (semis : Int) (hs : 0 ≤ semis ∧ semis < 12) {n : Str} {l : Char} {p : Int}
    (h : Scales.Good n l p) :
    ∃ w, ctor step semis n = .ok (rep (letterUp l step) w) ∧ -6 ≤ w ∧ w ≤ 6 ∧
      pc (rep (letterUp l step) w) = (p + semis) % 12 := by
  obtain ⟨t, rfl⟩ := h.eq_cons
  have hl' := letterUp_isLetter l step
  have hv2 : valid [letterUp l step] = true := valid_rep hl' 0
  have hm := measureP_range (l :: t) [letterUp l step]
  obtain ⟨hw1, hw2, hw⟩ := normAcc_spec (semis - measureP (l :: t) [letterUp l step]) (by omega)
  refine ⟨_, ?_, hw1, hw2, ?_⟩
  · simp only [ctor, interval_C l h.letter step hstep, ok_bind, augOrDim, noteToInt_of_valid hv2, noteToInt_of_valid h.1]
    have hfix := fix_rep _ (letter_ne_b hl') (letter_ne_sharp hl') (l :: t) semis hs 12 0
    rw [rep_zero] at hfix
    rw [hfix (by omega), rep_eq]
    simp only [Int.zero_add, pure_ok, accVal_accRun, rebuild_eq_rep _ (letter_ne_b hl') (letter_ne_sharp hl')]
  · rw [pc_rep]
    rw [measureP_eq, pc_cons, accVal_nil, h.2.2] at hw ⊢
    omega

theorem ctor_good (step : Nat) (hstep : step < 7) (sm : Int) (hs : 0 ≤ sm ∧ sm < 12) {n : Str} {l : Char} {p : Int}
    (h : Scales.Good n l p) : ∃ r, ctor step sm n = .ok r ∧ Scales.Good r (letterUp l step) ((p + sm) % 12) := by
  obtain ⟨w, hc, -, -, hw⟩ := ctor_closed step hstep sm hs h
  exact ⟨_, hc, (Scales.good_rep (letterUp_isLetter l step) w).congr hw⟩

end Mingus.Intervals
