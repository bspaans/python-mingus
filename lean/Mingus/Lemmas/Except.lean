/-
  What it means that a computation in `Except ε` returned: every bind on the way returned.  Proofs about the model's
  `do` blocks take a hypothesis `… = .ok r` apart with `simp only [bind_eq_ok, pure_eq_ok] at h` instead of unfolding `bind`;
  forwards, `simp [f, h]` runs a `do` block past the statements known to return (`ok_bind`, `pure_ok`, simp lemmas).
  Folds (`foldl`, `foldlM`) are read through an invariant `P state done` over the elements walked so far.
-/
namespace Mingus

universe u v w

@[simp] theorem ok_bind {ε α β} (a : α) (f : α → Except ε β) : (Except.ok a >>= f) = f a := rfl
@[simp] theorem error_bind {ε α β} (e : ε) (f : α → Except ε β) : ((Except.error e : Except ε α) >>= f) = .error e := rfl
@[simp] theorem pure_ok {ε α} (a : α) : (pure a : Except ε α) = .ok a := rfl
@[simp] theorem throw_error {ε α} (e : ε) : (throw e : Except ε α) = .error e := rfl

theorem bind_eq_ok {ε α β} {x : Except ε α} {f : α → Except ε β} {b : β} :
    x >>= f = .ok b ↔ ∃ a, x = .ok a ∧ f a = .ok b := by
  cases x <;> simp

theorem pure_eq_ok {ε α} {a b : α} : (pure a : Except ε α) = .ok b ↔ a = b := by
  simp

theorem map_eq_ok {ε α β} {x : Except ε α} {f : α → β} {b : β} : f <$> x = .ok b ↔ ∃ a, x = .ok a ∧ f a = b := by
  cases x <;> simp [Functor.map, Except.map]

/-- Applied with `exact`, so that the matcher of the model's `do` block and the one in this statement unify by unfolding,
    where `rw` with `h` fails. -/
theorem ok_then {ε α β} {x : Except ε α} {a : α} {f : α → Except ε β} {r : Except ε β} (h : x = .ok a) (h2 : f a = r) :
    x >>= f = r := by
  rw [h]; exact h2

theorem mapM_ok {ε α β} {f : α → Except ε β} {l : List α} {r : List β} (h : l.mapM f = .ok r) :
    r.length = l.length ∧ ∀ i (hi : i < l.length) (hr : i < r.length), f l[i] = .ok r[i] := by
  induction l generalizing r with
  | nil => simp_all
  | cons a t ih =>
    simp only [List.mapM_cons, bind_eq_ok, pure_eq_ok] at h
    obtain ⟨b, hb, bs, hbs, rfl⟩ := h
    refine ⟨by simp [(ih hbs).1], fun i hi hr => ?_⟩
    cases i with
    | zero => simpa using hb
    | succ k => simpa using (ih hbs).2 k (by simpa using hi) (by simpa using hr)

/-- for any monad: used with `Except ε` (`pure` is `.ok`) and with `Option` (`some`) -/
theorem mapM_eq_pure {m : Type u → Type v} [Monad m] [LawfulMonad m] {α : Type w} {β : Type u} {f : α → m β} {g : α → β}
    {l : List α} (h : ∀ a ∈ l, f a = pure (g a)) : l.mapM f = pure (l.map g) := by
  induction l with
  | nil => simp
  | cons a t ih =>
    obtain ⟨ha, ht⟩ := List.forall_mem_cons.1 h
    simp [List.mapM_cons, ha, ih ht]

theorem mapM_ok_of {ε α β γ} {f : α → Except ε β} {p : β → γ} {g : α → γ} {l : List α}
    (h : ∀ a ∈ l, ∃ b, f a = .ok b ∧ p b = g a) : ∃ r, l.mapM f = .ok r ∧ r.map p = l.map g := by
  induction l with
  | nil => exact ⟨[], rfl, rfl⟩
  | cons a t ih =>
    obtain ⟨⟨b, hb, hp⟩, ht⟩ := List.forall_mem_cons.1 h
    obtain ⟨r, hr, hm⟩ := ih ht
    exact ⟨b :: r, by simp [List.mapM_cons, hb, hr], by simp [hp, hm]⟩

theorem foldlM_ok {ε α β} (g : β → α → Except ε β) (l : List α) (h : ∀ b, ∀ a ∈ l, ∃ b', g b a = .ok b') :
    ∀ b, ∃ r, l.foldlM g b = .ok r := by
  induction l with
  | nil => intro b; exact ⟨b, rfl⟩
  | cons a t ih =>
    intro b
    obtain ⟨b', hb⟩ := h b a (by simp)
    obtain ⟨r, hr⟩ := ih (fun b x hx => h b x (by simp [hx])) b'
    exact ⟨r, by simp [List.foldlM_cons, hb, hr]⟩

theorem foldl_inv {α β} (f : β → α → β) (P : β → List α → Prop) (l : List α) (b : β) (h0 : P b [])
    (step : ∀ b, ∀ a ∈ l, ∀ done, P b done → P (f b a) (done ++ [a])) : P (l.foldl f b) l := by
  suffices ∀ done b, P b done → P (l.foldl f b) (done ++ l) by simpa using this [] b h0
  induction l with
  | nil => intro done b hb; simpa using hb
  | cons a l ih =>
    intro done b hb
    simpa using ih (fun b x hx => step b x (List.mem_cons_of_mem _ hx)) (done ++ [a]) (f b a)
      (step b a List.mem_cons_self done hb)

theorem foldlM_inv {ε α β} (f : β → α → Except ε β) (P : β → List α → Prop) (l : List α) (b r : β)
    (h : l.foldlM f b = .ok r) (h0 : P b [])
    (step : ∀ b, ∀ a ∈ l, ∀ b' done, P b done → f b a = .ok b' → P b' (done ++ [a])) : P r l := by
  suffices ∀ done b, P b done → l.foldlM f b = .ok r → P r (done ++ l) by simpa using this [] b h0 h
  clear h h0
  induction l with
  | nil => intro done b hp h; simp only [List.foldlM_nil, pure_eq_ok] at h; subst h; simpa using hp
  | cons a t ih =>
    intro done b hp h
    simp only [List.foldlM_cons, bind_eq_ok] at h
    obtain ⟨b', hb, hr⟩ := h
    simpa using ih (fun b x hx => step b x (List.mem_cons_of_mem _ hx)) (done ++ [a]) b'
      (step b a List.mem_cons_self b' done hp hb) hr

end Mingus
