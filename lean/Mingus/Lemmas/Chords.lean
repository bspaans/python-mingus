import Mingus.Lemmas.Scales
import Mingus.Model.Chords
/- A chord builder on a `Good` root yields notes on the letters and pitch classes its expressions denote
   (`exprSpec`, `MatchSpec`, `evalBuilder_good`); association lists; and `normalize` / `scanRest`, the string functions of
   `from_shorthand`, on each side of a character outside their patterns. -/
namespace Mingus.Chords
open Mingus Mingus.Notes Mingus.Keys Mingus.Intervals Mingus.Scales

/-- (letters up, semitones up) of a named interval constructor, read off the same tables `ctorByName` uses -/
def ctorInfo (name : Str) : Option (Nat × Int) :=
  let name := (aliasTable.lookup name).getD name
  if name = lit "minor_unison" then some (0, -1)
  else if name = lit "major_unison" then some (0, 0)
  else if name = lit "augmented_unison" then some (0, 1)
  else (ctorTable.find? (fun r => r.1 == name)).map (fun r => (r.2.1, r.2.2))

theorem iter_good (f : Str → Str) (d : Int)
    (hf : ∀ {n : Str} {l : Char} {p : Int}, Good n l p → Good (f n) l ((p + d) % 12))
    (k : Nat) {n : Str} {l : Char} {p : Int} (h : Good n l p) : Good (iter f k n) l ((p + k * d) % 12) := by
  induction k generalizing n p with
  | zero => exact h.congr (by have := h.range; simp; omega)
  | succ k ih => exact (ih (hf h)).congr (by rw [Int.natCast_succ, Int.add_mul]; omega)

theorem ctorByName_good (name : Str) (d : Nat) (sm : Int) (hi : ctorInfo name = some (d, sm))
    {n : Str} {l : Char} {p : Int} (h : Good n l p) :
    ∃ r, ctorByName name n = some (.ok r) ∧ Good r (letterUp l d) ((p + sm) % 12) := by
  have hl := h.letter
  have hp := h.range
  obtain ⟨t, rfl⟩ := h.eq_cons
  unfold ctorInfo at hi
  unfold ctorByName
  simp only at hi ⊢
  split at hi
  · next h1 =>
    cases hi
    rw [if_pos h1, letterUp_zero hl]
    exact ⟨_, rfl, h.diminish.congr (by omega)⟩
  · next h1 =>
    rw [if_neg h1]
    split at hi
    · next h2 =>
      cases hi
      rw [if_pos h2, letterUp_zero hl]
      exact ⟨_, rfl, h.congr (by omega)⟩
    · next h2 =>
      rw [if_neg h2]
      split at hi
      · next h3 =>
        cases hi
        rw [if_pos h3, letterUp_zero hl]
        exact ⟨_, rfl, h.augment⟩
      · next h3 =>
        rw [if_neg h3]
        simp only [Option.map_eq_some_iff] at hi
        obtain ⟨⟨nm, st, sm'⟩, hf, hi⟩ := hi
        cases hi
        have hr := ctorTable_ranges _ (List.mem_of_find?_eq_some hf)
        obtain ⟨r, h1', h2'⟩ := ctor_good st hr.2.1 sm' hr.2.2 h
        exact ⟨r, by simp [hf, h1'], h2'⟩

def exprSpec : NoteExpr → Option (Nat × Int)
  | .root => some (0, 0)
  | .ctor name => ctorInfo name
  | .aug e => (exprSpec e).map fun r => (r.1, r.2 + 1)
  | .dim e => (exprSpec e).map fun r => (r.1, r.2 - 1)

theorem evalExpr_good (e : NoteExpr) (d : Nat) (sm : Int) (hs : exprSpec e = some (d, sm))
    {n : Str} {l : Char} {p : Int} (h : Good n l p) :
    ∃ r, evalExpr n e = .ok r ∧ Good r (letterUp l d) ((p + sm) % 12) := by
  have hp := h.range
  induction e generalizing d sm with
  | root =>
    cases hs
    rw [letterUp_zero h.letter]
    exact ⟨_, rfl, h.congr (by omega)⟩
  | ctor name =>
    obtain ⟨r, h1, h2⟩ := ctorByName_good name d sm hs h
    exact ⟨r, by simp [evalExpr, h1], h2⟩
  | aug e ih =>
    simp only [exprSpec, Option.map_eq_some_iff] at hs
    obtain ⟨r0, he, hs⟩ := hs
    cases hs
    obtain ⟨r, h1, h2⟩ := ih _ _ he
    exact ⟨augment r, by simp [evalExpr, h1, Except.map], h2.augment.congr (by omega)⟩
  | dim e ih =>
    simp only [exprSpec, Option.map_eq_some_iff] at hs
    obtain ⟨r0, he, hs⟩ := hs
    cases hs
    obtain ⟨r, h1, h2⟩ := ih _ _ he
    exact ⟨diminish r, by simp [evalExpr, h1, Except.map], h2.diminish.congr (by omega)⟩

def MatchSpec (l : Char) (p : Int) : List Str → List (Nat × Int) → Prop
  | [], [] => True
  | x :: xs, ds :: dss => Good x (letterUp l ds.1) ((p + ds.2) % 12) ∧ MatchSpec l p xs dss
  | _, _ => False

theorem matchSpec_valid {l : Char} {p : Int} : ∀ {ns : List Str} {specs : List (Nat × Int)},
    MatchSpec l p ns specs → ∀ x ∈ ns, valid x = true
  | [], [], _ => by simp
  | x :: xs, d :: ds, h => by
    intro y hy
    rcases List.mem_cons.1 hy with rfl | hy
    · exact h.1.1
    · exact matchSpec_valid h.2 y hy

theorem evalBuilder_good (es : List NoteExpr) (specs : List (Nat × Int)) (hs : es.map exprSpec = specs.map some)
    {n : Str} {l : Char} {p : Int} (h : Good n l p) :
    ∃ ns, evalBuilder es n = .ok ns ∧
      MatchSpec l p ns specs := by
  induction es generalizing specs with
  | nil =>
    cases specs with
    | nil => exact ⟨[], rfl, trivial⟩
    | cons a t => simp at hs
  | cons e es ih =>
    cases specs with
    | nil => simp at hs
    | cons a t =>
      simp only [List.map_cons, List.cons.injEq] at hs
      obtain ⟨r, h1, h2⟩ := evalExpr_good e a.1 a.2 hs.1 h
      obtain ⟨ns, h3, h4⟩ := ih t hs.2
      refine ⟨r :: ns, ?_, ⟨h2, h4⟩⟩
      simp only [evalBuilder] at h3
      simp only [evalBuilder, List.mapM_cons, h1, h3, ok_bind, pure_ok]

theorem lookup_of_mem {α β} [BEq α] [LawfulBEq α] {l : List (α × β)} (hn : (l.map (·.1)).Nodup) {k : α} {v : β}
    (h : (k, v) ∈ l) : l.lookup k = some v := by
  obtain ⟨l₁, l₂, rfl⟩ := List.append_of_mem h
  refine List.lookup_eq_some_iff.2 ⟨l₁, l₂, rfl, fun p hp => ?_⟩
  rw [List.map_append, List.nodup_append] at hn
  exact bne_iff_ne.2 fun e => hn.2.2 p.1 (List.mem_map_of_mem hp) k (by simp) e.symm

theorem mem_of_lookup {α β} [BEq α] [LawfulBEq α] {l : List (α × β)} {a : α} {b : β} (h : l.lookup a = some b) :
    (a, b) ∈ l := by
  obtain ⟨l₁, l₂, rfl, -⟩ := List.lookup_eq_some_iff.1 h
  simp

theorem lookup_map_snd {α β γ} [BEq α] (g : β → γ) (l : List (α × β)) (k : α) :
    (l.map fun r => (r.1, g r.2)).lookup k = (l.lookup k).map g := by
  induction l with
  | nil => rfl
  | cons x t ih => simp only [List.map_cons, List.lookup]; split <;> simp [ih]

theorem isPrefixOf_barrier (pat a b : Str) (c : Char) (hc : c ∉ pat) :
    pat.isPrefixOf (a ++ c :: b) = pat.isPrefixOf a := by
  induction pat generalizing a with
  | nil => simp
  | cons p ps ih =>
    have hp : p ≠ c := (List.ne_of_not_mem_cons hc).symm
    have hps : c ∉ ps := List.not_mem_of_not_mem_cons hc
    cases a with
    | nil => simp [List.isPrefixOf, hp]
    | cons x xs => simp only [List.cons_append, List.isPrefixOf, ih xs hps]

theorem replaceGo_barrier (pat rep : Str) (c : Char) (hc : c ∉ pat) (b : Str) : ∀ (a : Str) (skip : Nat), skip ≤ a.length →
    replaceGo pat rep skip (a ++ c :: b) = replaceGo pat rep skip a ++ c :: replaceGo pat rep 0 b := by
  intro a
  induction a with
  | nil =>
    intro skip hs
    obtain rfl : skip = 0 := by simpa using hs
    have hb : pat.isPrefixOf (c :: b) = pat.isPrefixOf [] := isPrefixOf_barrier pat [] b c hc
    cases pat <;> simp [replaceGo, hb]
  | cons x xs ih =>
    intro skip hs
    cases skip with
    | succ k =>
      simp only [List.cons_append, replaceGo]
      exact ih k (by simpa using hs)
    | zero =>
      have hb := isPrefixOf_barrier pat (x :: xs) b c hc
      simp only [List.cons_append] at hb
      simp only [List.cons_append, replaceGo, hb]
      split
      · next hm =>
        -- the match lies inside `x :: xs` (`hb`), so what is left to skip ends before `c`
        have hl := (List.isPrefixOf_iff_prefix.1 hm.2).length_le
        rw [ih (pat.length - 1) (by simp at hl; omega), List.append_assoc]
      · rw [ih 0 (by omega)]; rfl

/-- `"min-aj"`: the characters of the five patterns the alias rewriting replaces -/
theorem normalize_sep (c : Char) (hc : c ∉ lit "min-aj") (a b : Str) :
    normalize (a ++ c :: b) = normalize a ++ c :: normalize b := by
  have h : ∀ pat : Str, (∀ x ∈ pat, x ∈ lit "min-aj") → c ∉ pat := fun _ hp hm => hc (hp c hm)
  have hr := fun pat rep hp a b => replaceGo_barrier pat rep c (h pat hp) b a 0 (Nat.zero_le _)
  unfold normalize replaceAll
  rw [hr (lit "min") _ (by decide), hr (lit "mi") _ (by decide), hr (lit "-") _ (by decide), hr (lit "maj") _ (by decide),
    hr (lit "ma") _ (by decide)]

theorem root_chars {l : Char} {t : Str} (hv : valid (l :: t) = true) :
    ∀ ch ∈ l :: t, ch ∉ lit "min-aj" ∧ ch ≠ '/' ∧ ch ≠ '|' := fun ch hch =>
  (by decide : ∀ c ∈ "ABCDEFG#b".toList, c ∉ lit "min-aj" ∧ c ≠ '/' ∧ c ≠ '|') ch (valid_chars hv hch)

theorem normalize_root {l : Char} {t : Str} (hv : valid (l :: t) = true) (x : Str) :
    normalize ((l :: t) ++ x) = (l :: t) ++ normalize x := by
  have h := root_chars hv
  generalize l :: t = pre at h
  induction pre with
  | nil => rfl
  | cons c r ih =>
    obtain ⟨hc, hr⟩ := List.forall_mem_cons.1 h
    simp only [List.cons_append]
    rw [← ih hr]
    exact normalize_sep c hc.1 [] (r ++ x)

theorem takeWhile_acc (t k : Str) (ht : t.all isAcc = true) (hk : ∀ c, k.head? = some c → c ≠ '#' ∧ c ≠ 'b') :
    (t ++ k).takeWhile (fun ch => ch == '#' || ch == 'b') = t := by
  rw [List.takeWhile_append_of_pos fun c hc => by simpa [isAcc, or_comm] using List.all_eq_true.1 ht c hc]
  cases k with
  | nil => simp
  | cons c r => have := hk c rfl; simp [this.1, this.2]

theorem scanRest_append (k rest : Str) (hk : '|' ∉ k) : ∀ (i : Nat) (sl : Option Nat),
    scanRest (k ++ rest) i sl = scanRest rest (i + k.length) (scanRest k i sl).2 := by
  induction k with
  | nil => intro i sl; rfl
  | cons ch t ih =>
    intro i sl
    have hch : ch ≠ '|' := (List.ne_of_not_mem_cons hk).symm
    have ht : '|' ∉ t := List.not_mem_of_not_mem_cons hk
    simp only [List.cons_append, scanRest, hch, if_false, List.length_cons]
    split <;> rw [ih ht, Nat.add_right_comm, Nat.add_assoc]

theorem scanRest_fst {k : Str} (hk : '|' ∉ k) (i : Nat) (sl : Option Nat) : (scanRest k i sl).1 = none := by
  have := scanRest_append k [] hk i sl
  rw [List.append_nil] at this
  exact congrArg Prod.fst this

theorem scanRest_noSep (k : Str) (hk : ∀ ch ∈ k, ch ≠ '/' ∧ ch ≠ '|') : ∀ (i : Nat) (sl : Option Nat),
    scanRest k i sl = (none, sl) := by
  induction k with
  | nil => intro i sl; rfl
  | cons ch t ih =>
    intro i sl
    obtain ⟨hc, ht⟩ := List.forall_mem_cons.1 hk
    simp only [scanRest, hc.1, hc.2, if_false]
    exact ih ht (i + 1) sl

theorem sepCount_append (a b : Str) : sepCount (a ++ b) = sepCount a + sepCount b := by
  simp [sepCount, List.count_append]; omega

theorem sepCount_root (l : Char) (t : Str) (hv : valid (l :: t) = true) : sepCount (l :: t) = 0 := by
  have h := root_chars hv
  have h1 : (l :: t).count '/' = 0 := List.count_eq_zero.2 fun hc => (h _ hc).2.1 rfl
  have h2 : (l :: t).count '|' = 0 := List.count_eq_zero.2 fun hc => (h _ hc).2.2 rfl
  simp only [sepCount]
  omega

end Mingus.Chords
