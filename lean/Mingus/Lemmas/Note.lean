import Mingus.Lemmas.Notes
import Mingus.Model.Note
/-
  Facts about the functions of Model/Note.lean that several properties use: `splitOn` at a separator that occurs once or
  not at all, the decimal text `showNat` / `showInt` and its reader `parseNat?`, and `setNote`, `toInt`, `pitch` on valid names.
-/
namespace Mingus.Notes

theorem isValidNote_cons (l : Char) (t : Str) : isValidNote (l :: t) = .ok (valid (l :: t)) := rfl

theorem valid_no_dash (x : Str) (h : valid x = true) : '-' ∉ x := fun hm => absurd (valid_chars h hm) (by decide)

end Mingus.Notes

namespace Mingus.Containers.Note
open Mingus Mingus.Notes

theorem splitOn_no_sep (sep : Char) (x : Str) (h : sep ∉ x) : splitOn sep x = [x] := by
  induction x with
  | nil => rfl
  | cons c t ih => simp [splitOn, (List.ne_of_not_mem_cons h).symm, ih (List.not_mem_of_not_mem_cons h)]

theorem splitOn_append (sep : Char) (a b : Str) (h : sep ∉ a) : splitOn sep (a ++ sep :: b) = a :: splitOn sep b := by
  induction a with
  | nil => simp [splitOn]
  | cons c t ih => simp [splitOn, (List.ne_of_not_mem_cons h).symm, ih (List.not_mem_of_not_mem_cons h)]

theorem splitOn_one_sep (sep : Char) (x y : Str) (hx : sep ∉ x) (hy : sep ∉ y) :
    splitOn sep (x ++ sep :: y) = [x, y] := by
  rw [splitOn_append sep x y hx, splitOn_no_sep sep y hy]

theorem digit_char : ∀ d, d < 10 → (Char.ofNat (48 + d)).isDigit = true ∧ (Char.ofNat (48 + d)).toNat - '0'.toNat = d := by
  decide

theorem digitsF_spec (f n : Nat) (hf : n < f) :
    (digitsF f n).all Char.isDigit = true ∧ digitsF f n ≠ [] ∧ (digitsF f n).foldl (fun (acc : Int) c => acc * 10 + (c.toNat - '0'.toNat : Nat)) 0 = n := by
  induction f generalizing n with
  | zero => omega
  | succ f ih =>
    simp only [digitsF]
    by_cases h : n < 10
    · simp only [h, if_true]
      obtain ⟨h1, h2⟩ := digit_char n h
      refine ⟨by simp [h1], by simp, ?_⟩
      simp only [List.foldl_cons, List.foldl_nil]; omega
    · simp only [h, if_false]
      obtain ⟨i1, i2, i3⟩ := ih (n / 10) (by omega)
      obtain ⟨h1, h2⟩ := digit_char (n % 10) (by omega)
      refine ⟨by simp [List.all_append, i1, h1], by simp, ?_⟩
      simp only [List.foldl_append, List.foldl_cons, List.foldl_nil] at i3 ⊢
      rw [i3]; omega

theorem showNat_spec (n : Nat) :
    (showNat n).all Char.isDigit = true ∧ showNat n ≠ [] ∧ (showNat n).foldl (fun (acc : Int) c => acc * 10 + (c.toNat - '0'.toNat : Nat)) 0 = n :=
  digitsF_spec (n + 1) n (by omega)

theorem showInt_nat (i : Int) (h : 0 ≤ i) : showInt i = showNat i.toNat := by
  simp [showInt, Int.not_lt.2 h]

theorem parse_show (n : Nat) : parseNat? (showNat n) = some (n : Int) := by
  obtain ⟨h1, h2, h3⟩ := showNat_spec n
  simp only [parseNat?, h2, h1, false_or, Bool.not_true, Bool.false_eq_true, if_false]
  exact congrArg some h3

theorem setNote_valid (n0 : Note) (nm : Str) (hv : valid nm = true) (o : Int) :
    setNote n0 nm o none none = .ok { n0 with name := nm, octave := o } := by
  have hs := splitOn_no_sep '-' nm (valid_no_dash _ hv)
  cases nm with
  | nil => cases hv
  | cons l t =>
    simp [setNote, hs, isValidNote_cons, hv]

theorem toInt_valid {n : Note} (h : valid n.name = true) : n.toInt = .ok n.pitch := by
  obtain ⟨l, t, hn⟩ := exists_cons_of_valid h
  rw [hn, valid_cons] at h
  obtain ⟨v, hv⟩ := Option.isSome_iff_exists.1 h.1
  have := natural_range hv
  simp [Note.toInt, Note.pitch, hn, noteToInt, hv]
  omega

theorem pitch_octave {n : Note} (h : valid n.name = true) (o : Int) :
    ({ n with octave := o } : Note).pitch = n.pitch + 12 * (o - n.octave) := by
  obtain ⟨l, t, hn⟩ := exists_cons_of_valid h
  simp only [Note.pitch, hn]; omega

end Mingus.Containers.Note
