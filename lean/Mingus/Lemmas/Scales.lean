import Mingus.Lemmas.Intervals
import Mingus.Model.Scales
/- Step lists (`stepsP`) of repeated and of grown note lists; `grow_spec`: the append-f(last) loop in terms of `Good`. -/
namespace Mingus.Scales
open Mingus Mingus.Notes Mingus.Keys Mingus.Intervals

def stepsP (q : List Int) : List Int := List.zipWith (fun a b => (b - a) % 12) q q.tail

@[simp] theorem stepsP_nil : stepsP [] = [] := rfl
@[simp] theorem stepsP_single (a : Int) : stepsP [a] = [] := rfl
@[simp] theorem stepsP_cons2 (a b : Int) (r : List Int) : stepsP (a :: b :: r) = (b - a) % 12 :: stepsP (b :: r) := rfl

theorem stepsP_append_cons (q : List Int) (x : Int) (r : List Int) :
    stepsP (q ++ x :: r) = stepsP (q ++ [x]) ++ stepsP (x :: r) := by
  induction q with
  | nil => rfl
  | cons a t ih =>
    cases t with
    | nil => rfl
    | cons b t' => simp only [List.cons_append, stepsP_cons2] at ih ⊢; rw [ih]

theorem steps_repeat (q0 : Int) (rest : List Int) (n : Nat) :
    stepsP ((List.replicate n (q0 :: rest)).flatten ++ [q0]) =
      (List.replicate n (stepsP ((q0 :: rest) ++ [q0]))).flatten := by
  induction n with
  | zero => simp
  | succ n ih =>
    obtain ⟨r, hr⟩ : ∃ r, (List.replicate n (q0 :: rest)).flatten ++ [q0] = q0 :: r := by
      cases n <;> exact ⟨_, rfl⟩
    rw [List.replicate_succ, List.flatten_cons, List.append_assoc, hr,
      stepsP_append_cons, ← hr, ih, List.replicate_succ, List.flatten_cons]

def pcsFrom (p : Int) : List Int → List Int
  | [] => [p]
  | d :: ds => p :: pcsFrom ((p + d) % 12) ds

def lettersUp (l : Char) : Nat → List Char
  | 0 => [l]
  | k+1 => l :: lettersUp (letterUp l 1) k

theorem grow_spec (f : Nat → Str → Except Err Str) (d : Nat → Int) (is : List Nat)
    (hf : ∀ i ∈ is, ∀ n l p, Good n l p → ∃ r, f i n = .ok r ∧ Good r (letterUp l 1) ((p + d i) % 12)) :
    ∀ (pre : List Str) (n : Str) (l : Char) (p : Int), Good n l p →
      ∃ ext, grow f is (pre ++ [n]) = .ok (pre ++ n :: ext) ∧
        (n :: ext).map pc = pcsFrom p (is.map d) ∧
        (n :: ext).map (fun x => x.headD ' ') = lettersUp l is.length ∧
        ∀ x ∈ ext, valid x = true := by
  induction is with
  | nil =>
    intro pre n l p h
    obtain ⟨t, rfl⟩ := h.eq_cons
    exact ⟨[], rfl, by simp [pcsFrom, h.2.2], rfl, by simp⟩
  | cons i is ih =>
    intro pre n l p h
    obtain ⟨hi, hf⟩ := List.forall_mem_cons.1 hf
    obtain ⟨r, hr, hg⟩ := hi n l p h
    obtain ⟨ext, h1, h2, h3, h4⟩ := ih hf (pre ++ [n]) r _ _ hg
    obtain ⟨t, rfl⟩ := h.eq_cons
    refine ⟨r :: ext, ?_, ?_, ?_, ?_⟩
    · simpa [grow, hr] using h1
    · rw [List.map_cons, h2, h.2.2]; rfl
    · rw [List.map_cons, h3]; rfl
    · intro x hx
      rcases List.mem_cons.1 hx with rfl | hx
      · exact hg.1
      · exact h4 x hx

theorem pcsFrom_length (p : Int) (ds : List Int) : (pcsFrom p ds).length = ds.length + 1 := by
  induction ds generalizing p with
  | nil => rfl
  | cons d ds ih => simp [pcsFrom, ih]

theorem pcsFrom_range (p : Int) (hp : 0 ≤ p ∧ p < 12) (ds : List Int) : ∀ x ∈ pcsFrom p ds, 0 ≤ x ∧ x < 12 := by
  induction ds generalizing p with
  | nil => intro x hx; simp [pcsFrom] at hx; omega
  | cons d ds ih =>
    intro x hx
    simp [pcsFrom] at hx
    rcases hx with e | e
    · omega
    · exact ih _ (by omega) x e

theorem stepsP_pcsFrom_closed (p : Int) (ds : List Int) (q0 : Int) :
    stepsP (pcsFrom p ds ++ [q0]) = ds.map (· % 12) ++ [(q0 - (p + ds.sum)) % 12] := by
  induction ds generalizing p with
  | nil => simp [pcsFrom]
  | cons d ds ih =>
    obtain ⟨r, hr⟩ : ∃ r, pcsFrom ((p + d) % 12) ds = (p + d) % 12 :: r := by cases ds <;> exact ⟨_, rfl⟩
    have := ih ((p + d) % 12)
    simp only [pcsFrom, List.cons_append, hr, stepsP_cons2, List.map_cons, List.sum_cons] at this ⊢
    rw [this]
    congr 1
    · omega
    · congr 2; omega

end Mingus.Scales
