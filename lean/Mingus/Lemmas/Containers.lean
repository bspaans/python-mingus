import Mingus.Model.Containers
import Mingus.Lemmas.Except
/-
  What `Bar.place`, `Bar.setMeter`, `Bar.new` and `NC.addNoteObj` do to the fields that the properties of bars, tracks and
  the MIDI reader look at.
-/
namespace Mingus.Containers

namespace Bar

theorem place_entries (b : Bar) (c : Option NC) (v : Rat) :
    (b.place c v).2.entries = b.entries ++ if (b.place c v).1 then [⟨b.current, v, c⟩] else [] := by
  simp only [Bar.place]
  split <;> simp

theorem place_refused {b : Bar} {c : Option NC} {v : Rat} (h : (b.place c v).1 = false) : (b.place c v).2 = b := by
  simp only [Bar.place] at h ⊢
  split at h
  · cases h
  · rw [if_neg ‹_›]

theorem isPow2Rat_two_pow (j : Nat) : isPow2Rat ((2 ^ j : Nat) : Rat) = true := by
  simp only [isPow2Rat, Rat.den_natCast, Rat.num_natCast, Int.toNat_natCast, Nat.log2_two_pow, beq_self_eq_true,
    Bool.and_true, Bool.true_and]
  exact decide_eq_true (Int.natCast_pos.2 (Nat.two_pow_pos j))

theorem setMeter_pow2 (b : Bar) (count : Int) {unit : Rat} (h : isPow2Rat unit = true) :
    b.setMeter count unit = .ok { b with meter := (count, unit), length := F64.mul count (F64.div 1 unit) } := by
  simp [setMeter, h]

theorem setMeter_entries {b b' : Bar} {c : Int} {u : Rat} (h : b.setMeter c u = .ok b') : b'.entries = b.entries := by
  unfold setMeter at h
  split at h
  · cases h; rfl
  · split at h
    · cases h; rfl
    · cases h

theorem new_entries {k : Str} {c : Int} {u : Rat} {nb : Bar} (h : Bar.new k c u = .ok nb) : nb.entries = [] := by
  obtain ⟨_, _, h⟩ := bind_eq_ok.1 h
  obtain ⟨_, _, h⟩ := bind_eq_ok.1 h
  cases h
  rfl

end Bar

namespace NC

theorem addNoteObj_nil (n : Note) : addNoteObj [] n = [n] := rfl

theorem addNoteObj_ne_nil (l : NC) (n : Note) : addNoteObj l n ≠ [] := by
  unfold addNoteObj
  split
  · rintro rfl; simp [hasPitch] at *
  · rw [sort, List.foldl_append]
    cases List.foldl (fun acc n => insertSorted n acc) [] l <;> simp [insertSorted]
    split <;> simp

end NC

end Mingus.Containers
