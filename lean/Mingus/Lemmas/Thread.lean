/-
  Running a step function over a list while threading a state and concatenating what each step writes.  The event
  specifications of the MIDI writer (entries of a bar, bars of a track, passes of a repeat) are all of this form.  They are
  written out recursively so that the theorems that mention them can be read without this file; each has a lemma
  `X_eq : X = thread …`; refinement, well-formedness, note timeline and balance are each proved once over `thread`.
-/
namespace Mingus

variable {σ α β : Type}

def thread (f : σ → α → List β × σ) (s : σ) : List α → List β × σ
  | [] => ([], s)
  | x :: xs => ((f s x).1 ++ (thread f (f s x).2 xs).1, (thread f (f s x).2 xs).2)

@[simp] theorem thread_nil (f : σ → α → List β × σ) (s : σ) : thread f s [] = ([], s) := rfl

@[simp] theorem thread_cons (f : σ → α → List β × σ) (s : σ) (x : α) (xs : List α) :
    thread f s (x :: xs) = ((f s x).1 ++ (thread f (f s x).2 xs).1, (thread f (f s x).2 xs).2) := rfl

theorem thread_congr {f g : σ → α → List β × σ} {xs : List α} (h : ∀ x ∈ xs, ∀ s, f s x = g s x) (s : σ) :
    thread f s xs = thread g s xs := by
  induction xs generalizing s with
  | nil => rfl
  | cons x xs ih =>
    obtain ⟨hx, ht⟩ := List.forall_mem_cons.1 h
    simp only [thread_cons, hx, ih ht]

theorem thread_ind {f : σ → α → List β × σ} {xs : List α} {I : σ → Prop} {P : List β → Prop} (nil : P [])
    (app : ∀ a b, P a → P b → P (a ++ b)) (step : ∀ x ∈ xs, ∀ s, I s → P (f s x).1 ∧ I (f s x).2) (s : σ) (hs : I s) :
    P (thread f s xs).1 ∧ I (thread f s xs).2 := by
  induction xs generalizing s with
  | nil => exact ⟨nil, hs⟩
  | cons x xs ih =>
    obtain ⟨hx, ht⟩ := List.forall_mem_cons.1 step
    obtain ⟨p, i⟩ := hx s hs
    obtain ⟨p', i'⟩ := ih ht _ i
    exact ⟨app _ _ p p', i'⟩

theorem thread_forall {f : σ → α → List β × σ} {xs : List α} {I : σ → Prop} {P : β → Prop}
    (step : ∀ x ∈ xs, ∀ s, I s → (∀ y ∈ (f s x).1, P y) ∧ I (f s x).2) (s : σ) (hs : I s) :
    (∀ y ∈ (thread f s xs).1, P y) ∧ I (thread f s xs).2 :=
  thread_ind (P := fun l => ∀ y ∈ l, P y) (by simp) (fun _ _ ha hb y hy => (List.mem_append.1 hy).elim (ha y) (hb y))
    step s hs

theorem thread_const (g : α → List β) (s : σ) (xs : List α) : thread (fun s x => (g x, s)) s xs = (xs.flatMap g, s) := by
  induction xs with
  | nil => rfl
  | cons x xs ih => simp [ih]

end Mingus
