import Mingus.Lemmas.Except
/-
  Members of what `mapM` returned in the `Except` monad; the length of a concatenation of non-empty
  pieces; the fold that takes a maximum; distinct elements pushed on a list one by one and erased again in the same order.
  Nothing here mentions the model.
-/
namespace Mingus

variable {ε α β γ : Type _}

theorem mapM_getElem? {f : α → Except ε β} {l : List α} {r : List β} (h : l.mapM f = .ok r) {i : Nat} {b : β}
    (hb : r[i]? = some b) : ∃ a, l[i]? = some a ∧ f a = .ok b := by
  obtain ⟨hr, rfl⟩ := List.getElem?_eq_some_iff.1 hb
  have hl : i < l.length := (mapM_ok h).1 ▸ hr
  exact ⟨l[i], List.getElem?_eq_getElem hl, (mapM_ok h).2 i hl hr⟩

theorem mapM_mem_right {f : α → Except ε β} {l : List α} {r : List β} (h : l.mapM f = .ok r) {b : β} (hb : b ∈ r) :
    ∃ a ∈ l, f a = .ok b := by
  obtain ⟨i, hi⟩ := List.mem_iff_getElem?.1 hb
  obtain ⟨a, ha, hab⟩ := mapM_getElem? h hi
  exact ⟨a, List.mem_of_getElem? ha, hab⟩

theorem mapM_mem_left {f : α → Except ε β} {l : List α} {r : List β} (h : l.mapM f = .ok r) {a : α} (ha : a ∈ l) :
    ∃ b ∈ r, f a = .ok b := by
  obtain ⟨i, hi, rfl⟩ := List.mem_iff_getElem.1 ha
  have hr : i < r.length := (mapM_ok h).1 ▸ hi
  exact ⟨r[i], List.getElem_mem hr, (mapM_ok h).2 i hi hr⟩

theorem length_le_flatMap (f : α → List β) (l : List α) (h : ∀ x ∈ l, f x ≠ []) : l.length ≤ (l.flatMap f).length := by
  induction l with
  | nil => simp
  | cons x l ih =>
    obtain ⟨hx, hl⟩ := List.forall_mem_cons.1 h
    have := List.length_pos_iff.2 hx
    have := ih hl
    simp only [List.flatMap_cons, List.length_append, List.length_cons]
    omega

theorem foldl_max_ge (k : α → Nat) (l : List α) (m0 : Nat) :
    m0 ≤ l.foldl (fun m x => if k x > m then k x else m) m0 ∧
      ∀ x ∈ l, k x ≤ l.foldl (fun m x => if k x > m then k x else m) m0 := by
  refine foldl_inv _ (fun m done => m0 ≤ m ∧ ∀ x ∈ done, k x ≤ m) l m0 ⟨Nat.le_refl _, by simp⟩ ?_
  rintro m a _ done ⟨h1, h2⟩
  refine ⟨by split <;> omega, fun x hx => ?_⟩
  rcases List.mem_append.1 hx with hx | hx
  · have := h2 x hx; split <;> omega
  · simp only [List.mem_singleton] at hx; subst hx; split <;> omega

theorem foldl_erase_reverse [BEq α] [LawfulBEq α] (ks : List α) (h : ks.Nodup) (on : List α) :
    ks.foldl List.erase (ks.reverse ++ on) = on := by
  induction ks generalizing on with
  | nil => rfl
  | cons k ks ih =>
    rw [List.nodup_cons] at h
    rw [List.foldl_cons, List.reverse_cons, List.append_assoc, List.erase_append_right _ (by simpa using h.1)]
    simpa using ih h.2 on

end Mingus
