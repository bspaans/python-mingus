import Mingus.Model.Notes
import Mingus.Lemmas.Except
/- Equations of `accVal`, `valid`, `pc`; `augment` and `diminish` as one operation `bump` with the two accidentals
   exchanged; canonical spellings `rep`; the invariant `Scales.Good`. -/
namespace Mingus.Notes

theorem accVal_foldl (s : Str) (a : Int) :
    s.foldl (fun v c => v + accOf c) a = a + accVal s := by
  induction s generalizing a with
  | nil => simp [accVal]
  | cons c t ih => simp only [List.foldl_cons, accVal]; rw [ih, ih (0 + accOf c)]; omega

@[simp] theorem accVal_nil : accVal [] = 0 := rfl
theorem accVal_cons (c : Char) (t : Str) : accVal (c :: t) = accOf c + accVal t := by
  simp only [accVal, List.foldl_cons]; rw [accVal_foldl]; simp [accVal]
theorem accVal_append (s t : Str) : accVal (s ++ t) = accVal s + accVal t := by
  simp only [accVal, List.foldl_append]; rw [accVal_foldl]; rfl
theorem accVal_replicate (k : Nat) (c : Char) : accVal (List.replicate k c) = k * accOf c := by
  induction k with
  | zero => simp
  | succ k ih => rw [List.replicate_succ, accVal_cons, ih]; simp [Int.add_mul]; omega

theorem accVal_count (t : Str) : accVal t = (t.count '#' : Int) - (t.count 'b' : Int) := by
  induction t with
  | nil => simp
  | cons c t ih =>
    rw [accVal_cons, ih, List.count_cons, List.count_cons, accOf]
    split <;> split <;> simp_all <;> omega

theorem valid_cons {l : Char} {t : Str} : valid (l :: t) = true ↔ isLetter l = true ∧ t.all isAcc = true := by
  simp [valid]

theorem exists_cons_of_valid {n : Str} (h : valid n = true) : ∃ l t, n = l :: t := by
  cases n with
  | nil => cases h
  | cons l t => exact ⟨l, t, rfl⟩

theorem pc_cons (l : Char) (t : Str) : pc (l :: t) = ((natural? l).getD 0 + accVal t) % 12 := rfl

theorem pc_range (n : Str) : 0 ≤ pc n ∧ pc n < 12 := by
  cases n with
  | nil => simp [pc]
  | cons l t => rw [pc_cons]; omega

theorem noteToInt_cons (l : Char) (t : Str) :
    noteToInt (l :: t) = if valid (l :: t) = true then .ok (pc (l :: t)) else .error .noteFormat := by
  cases h : natural? l <;> simp [noteToInt, valid, isLetter, pc, h]

theorem reduce_cons (l : Char) (t : Str) :
    reduceAccidentals (l :: t) =
      if valid (l :: t) = true then
        if accVal t ≥ 0 then intToNote (pc (l :: t)) ['#'] else intToNote (pc (l :: t)) ['b']
      else .error .noteFormat := by
  cases h : natural? l with
  | none => simp [reduceAccidentals, valid, isLetter, h]
  | some v =>
    have hv : (v + accVal t ≥ v) = (accVal t ≥ 0) := by simp; omega
    simp only [reduceAccidentals, valid, isLetter, pc, h, hv]
    cases t.all isAcc <;> rfl

theorem noteToInt_of_valid {n : Str} (h : valid n = true) : noteToInt n = .ok (pc n) := by
  obtain ⟨l, t, rfl⟩ := exists_cons_of_valid h
  rw [noteToInt_cons, if_pos h]

theorem letter_ne_b {l : Char} (h : isLetter l = true) : l ≠ 'b' := by
  intro e; subst e; revert h; decide
theorem letter_ne_sharp {l : Char} (h : isLetter l = true) : l ≠ '#' := by
  intro e; subst e; revert h; decide

theorem letter_not_acc {l : Char} (h : isLetter l = true) : isAcc l = false := by
  simp [isAcc, letter_ne_b h, letter_ne_sharp h]

theorem mem_noteDict {l : Char} {v : Int} (h : natural? l = some v) : (l, v) ∈ noteDict := by
  obtain ⟨l₁, l₂, e, _⟩ := List.lookup_eq_some_iff.1 h
  exact e ▸ by simp

theorem letter_cases {l : Char} (h : isLetter l = true) :
    l = 'C' ∨ l = 'D' ∨ l = 'E' ∨ l = 'F' ∨ l = 'G' ∨ l = 'A' ∨ l = 'B' := by
  obtain ⟨v, hv⟩ := Option.isSome_iff_exists.1 h
  simpa [noteDict] using List.mem_map_of_mem (f := Prod.fst) (mem_noteDict hv)

theorem isAcc_iff {c : Char} : isAcc c = true ↔ c = '#' ∨ c = 'b' := by
  simp [isAcc, or_comm]

/-- `⊆` a literal, so that what a valid name is free of is decided on this alphabet -/
theorem valid_chars {x : Str} (h : valid x = true) : x ⊆ "ABCDEFG#b".toList := by
  obtain ⟨l, t, rfl⟩ := exists_cons_of_valid h
  obtain ⟨hl, ht⟩ := valid_cons.1 h
  refine List.cons_subset.2 ⟨?_, fun c hc => ?_⟩
  · rcases letter_cases hl with e | e | e | e | e | e | e <;> subst e <;> decide
  · rcases isAcc_iff.1 (List.all_eq_true.1 ht c hc) with rfl | rfl <;> decide

theorem natural_range {l : Char} {v : Int} (h : natural? l = some v) : 0 ≤ v ∧ v < 12 :=
  (by decide : ∀ p ∈ noteDict, 0 ≤ p.2 ∧ p.2 < 12) (l, v) (mem_noteDict h)


def bump (a a' : Char) (n : Str) : Str := if n.getLast? ≠ some a' then n ++ [a] else n.dropLast

theorem augment_eq_bump : augment = bump '#' 'b' := rfl
theorem diminish_eq_bump : diminish = bump 'b' '#' := rfl

variable {a a' : Char}

theorem bump_cases (a a' : Char) (n : Str) :
    bump a a' n = n ++ [a] ∨ ∃ m, n = m ++ [a'] ∧ bump a a' n = m := by
  unfold bump
  split
  · exact Or.inl rfl
  · rename_i h
    obtain ⟨m, rfl⟩ := List.getLast?_eq_some_iff.1 (Decidable.not_not.1 h)
    exact Or.inr ⟨m, rfl, by simp⟩

theorem bump_cons {l : Char} (hl : l ≠ a') (t : Str) : bump a a' (l :: t) = l :: bump a a' t := by
  cases t with
  | nil => simp [bump, hl]
  | cons c t => simp only [bump, List.getLast?_cons_cons]; split <;> simp

theorem accVal_bump (h : accOf a + accOf a' = 0) (t : Str) : accVal (bump a a' t) = accVal t + accOf a := by
  rcases bump_cases a a' t with e | ⟨m, rfl, e⟩ <;> rw [e, accVal_append, accVal_cons, accVal_nil] <;> omega

theorem all_bump {p : Char → Bool} (ha : p a = true) (ha' : p a' = true) (t : Str) :
    (bump a a' t).all p = t.all p := by
  rcases bump_cases a a' t with e | ⟨m, rfl, e⟩ <;> simp [e, ha, ha']

def accRun (a a' : Char) (v : Int) : Str :=
  if v ≥ 0 then List.replicate v.toNat a else List.replicate (-v).toNat a'

theorem accRun_neg (a a' : Char) (v : Int) : accRun a a' (-v) = accRun a' a v := by
  unfold accRun
  rcases Int.lt_trichotomy v 0 with h | rfl | h
  · simp [Int.le_of_lt h]; omega
  · simp
  · simp [Int.le_of_lt h]; omega

theorem bump_replicate (h : a ≠ a') (k : Nat) : bump a a' (List.replicate k a) = List.replicate (k + 1) a := by
  rw [List.replicate_succ', bump, if_pos]
  rw [List.getLast?_replicate]; split <;> simp [h]

theorem bump_replicate_succ (k : Nat) : bump a a' (List.replicate (k + 1) a') = List.replicate k a' := by
  simp [bump, List.getLast?_replicate, List.dropLast_replicate]

theorem bump_accRun (h : a ≠ a') (v : Int) : bump a a' (accRun a a' v) = accRun a a' (v + 1) := by
  unfold accRun
  by_cases hv : v ≥ 0
  · rw [if_pos hv, if_pos (by omega), bump_replicate h, show (v + 1).toNat = v.toNat + 1 by omega]
  · rw [if_neg hv, show (-v).toNat = (-(v + 1)).toNat + 1 by omega, bump_replicate_succ]
    split
    · rw [show v + 1 = 0 by omega]; rfl
    · rfl

theorem accVal_accRun (v : Int) : accVal (accRun '#' 'b' v) = v := by
  unfold accRun; split <;> rw [accVal_replicate] <;> simp [accOf] <;> omega


theorem rep_eq (l : Char) (v : Int) : rep l v = l :: accRun '#' 'b' v := rfl
theorem rep_eq_neg (l : Char) (v : Int) : rep l v = l :: accRun 'b' '#' (-v) := by rw [accRun_neg]; rfl

theorem rep_zero (l : Char) : rep l 0 = [l] := rfl

theorem accVal_rep (l : Char) (v : Int) : accVal (rep l v).tail = v := accVal_accRun v

theorem pc_rep (l : Char) (v : Int) : pc (rep l v) = ((natural? l).getD 0 + v) % 12 := by
  rw [rep_eq, pc_cons, accVal_accRun]

theorem valid_rep {l : Char} (hl : isLetter l = true) (v : Int) : valid (rep l v) = true := by
  refine valid_cons.2 ⟨hl, ?_⟩
  split <;> simp [isAcc]

theorem augment_rep (l : Char) (hl : l ≠ 'b') (v : Int) : augment (rep l v) = rep l (v+1) := by
  rw [rep_eq, augment_eq_bump, bump_cons hl, bump_accRun (by decide)]; rfl

theorem diminish_rep (l : Char) (hl : l ≠ '#') (v : Int) : diminish (rep l v) = rep l (v-1) := by
  rw [rep_eq_neg, rep_eq_neg, diminish_eq_bump, bump_cons hl, bump_accRun (by decide)]; congr 2; omega

theorem iter_rep {f : Str → Str} {l : Char} {d : Int} (hf : ∀ v, f (rep l v) = rep l (v + d)) (k : Nat) (v : Int) :
    iter f k (rep l v) = rep l (v + k * d) := by
  induction k generalizing v with
  | zero => simp [iter]
  | succ k ih => rw [iter, hf, ih]; congr 1; simp [Int.add_mul]; omega

theorem rebuild_eq_rep (l : Char) (hb : l ≠ 'b') (hs : l ≠ '#') (v : Int) : rebuild l v = rep l v := by
  unfold rebuild
  split
  · rw [← rep_zero l, iter_rep (augment_rep l hb)]; congr 1; omega
  · rw [← rep_zero l, iter_rep (d := -1) (diminish_rep l hs)]; congr 1; omega

end Mingus.Notes

namespace Mingus.Scales
open Mingus.Notes

def Good (n : Str) (l : Char) (p : Int) : Prop := valid n = true ∧ n.head? = some l ∧ pc n = p

variable {n : Str} {l : Char} {p : Int}

theorem good_of_valid (l : Char) (t : Str) (h : valid (l :: t) = true) : Good (l :: t) l (pc (l :: t)) :=
  ⟨h, rfl, rfl⟩

theorem Good.eq_cons (h : Good n l p) : ∃ t, n = l :: t := List.head?_eq_some_iff.1 h.2.1

theorem Good.letter (h : Good n l p) : isLetter l = true := by
  obtain ⟨t, rfl⟩ := h.eq_cons
  exact (valid_cons.1 h.1).1

theorem Good.congr {q : Int} (h : Good n l p) (e : p = q) : Good n l q := e ▸ h

theorem Good.range (h : Good n l p) : 0 ≤ p ∧ p < 12 := h.2.2 ▸ pc_range n

theorem good_rep {l : Char} (hl : isLetter l = true) (v : Int) : Good (rep l v) l (pc (rep l v)) :=
  ⟨valid_rep hl v, rfl, rfl⟩

theorem Good.bump {a a' : Char} (ha : isAcc a = true) (ha' : isAcc a' = true) (hs : accOf a + accOf a' = 0)
    (h : Good n l p) : Good (bump a a' n) l ((p + accOf a) % 12) := by
  obtain ⟨t, rfl⟩ := h.eq_cons
  obtain ⟨hl, ht⟩ := valid_cons.1 h.1
  have hne : l ≠ a' := by rintro rfl; rw [letter_not_acc hl] at ha'; cases ha'
  rw [bump_cons hne]
  refine ⟨valid_cons.2 ⟨hl, by rwa [all_bump ha ha']⟩, rfl, ?_⟩
  rw [← h.2.2, pc_cons, pc_cons, accVal_bump hs]; omega

theorem Good.augment (h : Good n l p) : Good (augment n) l ((p + 1) % 12) := h.bump rfl rfl rfl
theorem Good.diminish (h : Good n l p) : Good (diminish n) l ((p - 1) % 12) := h.bump rfl rfl rfl

end Mingus.Scales
