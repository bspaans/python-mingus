-- Root of the `Mingus` library: importing everything makes `lake build Mingus` (MANIFEST.setup_cmd) build every
-- model, lemma, property and tie module.
import Mingus.Model.Dispatch
import Mingus.Props.C01
import Mingus.Props.C02
import Mingus.Props.C03
import Mingus.Props.C04
import Mingus.Props.C05
import Mingus.Props.C06
import Mingus.Props.C06Poly
import Mingus.Props.C07
import Mingus.Props.C07Forms
import Mingus.Props.C08
import Mingus.Props.C09
import Mingus.Props.C10
import Mingus.Props.C10Hz
import Mingus.Props.C11
import Mingus.Props.C12
import Mingus.Props.C12Interval
import Mingus.Props.C12Chord
import Mingus.Props.C13
import Mingus.Props.C13Dyadic
import Mingus.Props.C14
import Mingus.Props.C14Full
import Mingus.Props.C14Chords
import Mingus.Props.C15
import Mingus.Props.C15Fft
import Mingus.Tie.C01
import Mingus.Tie.C02
import Mingus.Tie.C03
import Mingus.Tie.C04
import Mingus.Tie.C05
import Mingus.Tie.C06
import Mingus.Tie.C07
import Mingus.Tie.C08
import Mingus.Tie.C09
import Mingus.Tie.C10
import Mingus.Tie.C11
import Mingus.Tie.C12
import Mingus.Tie.C13
import Mingus.Tie.C14
import Mingus.Tie.C15
import Mingus.Props.C16Meta
import Mingus.Tie.C16
import Mingus.Props.C17
import Mingus.Props.C17Flat
import Mingus.Props.C17Trip
import Mingus.Lemmas.Float
import Mingus.Lemmas.Except
import Mingus.Lemmas.Containers
import Mingus.Lemmas.Thread
import Mingus.Lemmas.ListM
import Mingus.Lemmas.Note
import Mingus.Tie.C17
import Mingus.Props.C18
import Mingus.Props.C18Par
import Mingus.Props.C18Tracks
import Mingus.Tie.C18
import Mingus.Props.C19
import Mingus.Props.C19Entry
import Mingus.Props.C19Bar
import Mingus.Props.C19Track
import Mingus.Props.C19Comp
import Mingus.Tie.C19
import Mingus.Props.C20
import Mingus.Props.C20Chord
import Mingus.Props.C20Decode
import Mingus.Props.C20Track
import Mingus.Tie.C20
import Mingus.Lemmas.FloatErr
import Mingus.Props.C09Float
import Mingus.Props.C20Comp
import Mingus.Props.C20Pinned
import Mingus.Props.C20Header
import Mingus.Props.C18Tempo
import Mingus.Props.C16TempoTrack
